import MV.Props.FactsHolds
/-! Structural facts C19 relies on, re-extracted from /repo on every run. -/
namespace MV.Facts

/-- State that outlives a call, as extracted from the source on this run: the package-level
variables of the packages this property's code lives in, the functions (other than `init`) that
assign to them or call methods on them, and the fields of the property's struct types. The model is
a pure function of the arguments and of these fields; a new variable, writer or field is state the
model does not know of. The digest-valued `shape:` entry covers everything the call graph
(resolved by go/types) reaches from the functions declared in the property's anchor files: per
function, method (with receiver kind), package variable and constant, its numeric literals, its comparison operators, the
package variables it reads and its writes through parameters or the receiver (including in-place
`sort.*`/`copy`/`append`). The entries behind the digest are in `shape_expected.txt` and in a
comment of the generated file. -/
def stateC19 : List (String × String) := [("globals:graph", ""), ("globals:graphalg", ""), ("globalwrites:graph", ""), ("globalwrites:graphalg", ""), ("fields:graphalg.DomTree", "idom:[]int children:[][]int"), ("shape:C19", "n=25 fnv64a=5786b74b7c11dcf6")]

/-- the source has exactly the package-level variables, writers and struct fields the model accounts for -/
theorem state_C19 : holdsAll stateC19 = true := by
  repeat (refine holdsAll_cons rfl ?_)
  exact holdsAll_nil

end MV.Facts
