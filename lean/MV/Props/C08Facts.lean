import MV.Props.FactsHolds
/-! Source facts the C08 model relies on (checked against the facts regenerated from /repo on every run). -/
namespace MV.Facts

def expectedC08 : List (String × String) := [("mathx.smallFactLimit", "20"), ("lits:mathx.Choose", "0 0 0 1 1 1")]

/-- the constants and literals the C08 model mirrors are still what the source says -/
theorem facts_C08 : holdsAll expectedC08 = true := by decide +kernel


/-- State that outlives a call, as extracted from the source on this run: the package-level
variables of the packages this property's code lives in, the functions (other than `init`) that
assign to them or call methods on them, and the fields of the property's struct types. The model is
a pure function of the arguments and of these fields; a new variable, writer or field is state the
model does not know of. The digest-valued `shape:` entry covers everything the call graph
(resolved by go/types) reaches from the functions declared in the property's anchor files: per
function, method (with receiver kind), package variable and constant, its numeric literals, its comparison operators, the
package variables it reads and its writes through parameters or the receiver (including in-place
`sort.*`/`copy`/`append`). The entries behind the digest are in `shape_expected.txt` and in a
comment of the generated file. -/
def stateC08 : List (String × String) := [("globals:mathx", "nan smallFact"), ("globalwrites:mathx", ""), ("shape:C08", "n=16 fnv64a=a72e5871399fc7af")]

/-- the source has exactly the package-level variables, writers and struct fields the model accounts for -/
theorem state_C08 : holdsAll stateC08 = true := by
  repeat (refine holdsAll_cons rfl ?_)
  exact holdsAll_nil

end MV.Facts
