import Mathlib.Tactic
import Mathlib.Analysis.Real.Sqrt
import MV.Model.TTest
import MV.Props.C09
/-!
# C04 — t-tests over exact rationals: textbook forms, error characterisation,
swap law, affine invariance, positivity of the denominator.
-/
namespace MV.TTest
open MV.Sample

def AllEq (xs : List Rat) : Prop := ∀ a ∈ xs, ∀ b ∈ xs, a = b

lemma allEq_of_length_le_one (xs : List Rat) (h : xs.length ≤ 1) : AllEq xs := by
  match xs, h with
  | [], _ => exact fun a ha => absurd ha List.not_mem_nil
  | [x], _ =>
    intro a ha b hb
    rw [List.mem_singleton.1 ha, List.mem_singleton.1 hb]

lemma sum_sqdev_nonneg (xs : List Rat) (m : Rat) :
    0 ≤ (xs.map fun x => (x - m) * (x - m)).sum :=
  List.sum_nonneg fun z hz => by
    obtain ⟨w, _, rfl⟩ := List.mem_map.1 hz
    exact mul_self_nonneg _

/-- a sum of squared deviations from `m` vanishes iff every value is `m` -/
lemma sum_sqdev_eq_zero_iff (xs : List Rat) (m : Rat) :
    (xs.map fun x => (x - m) * (x - m)).sum = 0 ↔ ∀ x ∈ xs, x = m := by
  induction xs with
  | nil => simp
  | cons x xs ih =>
    rw [List.map_cons, List.sum_cons,
      add_eq_zero_iff_of_nonneg (mul_self_nonneg _) (sum_sqdev_nonneg xs m), mul_self_eq_zero,
      sub_eq_zero, ih, List.forall_mem_cons]

lemma varSpec_nonneg (xs : List Rat) (h : 2 ≤ xs.length) : 0 ≤ varSpec xs := by
  rw [varSpec_list_sum]
  exact div_nonneg (sum_sqdev_nonneg _ _)
    (sub_nonneg.2 (by exact_mod_cast (by omega : 1 ≤ xs.length)))

/-- For at least two values the textbook sample variance `varSpec` is zero iff all values
are equal (a sum of squares of rationals vanishes iff every term does). -/
theorem varSpec_eq_zero_iff (xs : List Rat) (h : 2 ≤ xs.length) : varSpec xs = 0 ↔ AllEq xs := by
  have hn : (xs.length : Rat) ≠ 0 := Nat.cast_ne_zero.2 (by omega)
  have hn1 : (xs.length : Rat) - 1 ≠ 0 :=
    sub_ne_zero.2 (by exact_mod_cast (by omega : xs.length ≠ 1))
  rw [varSpec_list_sum, div_eq_zero_iff, or_iff_left hn1, sum_sqdev_eq_zero_iff]
  constructor
  · intro hall a ha b hb
    rw [hall a ha, hall b hb]
  · -- the mean of a constant list is its value
    intro hall a ha
    rw [meanSpec, sum_eq, List.sum_eq_card_nsmul xs a fun b hb => hall b hb a ha, nsmul_eq_mul,
      mul_div_cancel_left₀ _ hn]

/-- For n ≥ 2 the variance used by the t-tests is the textbook `varSpec = Σ(x − mean)²/(n − 1)`. -/
theorem variance_eq (xs : List Rat) (h : 2 ≤ xs.length) : variance xs = varSpec xs := by
  unfold variance
  rw [if_neg (by omega)]

example : variance [1, 2, 3, 4] = 5 / 3 := by decide +kernel

example : varSpec [3, 3, 3] = 0 := (varSpec_eq_zero_iff _ (by simp)).mpr (by simp [AllEq])
example : varSpec [1, 2, 3, 4] ≠ 0 := fun h => by
  have := (varSpec_eq_zero_iff _ (by simp)).mp h 1 (by simp) 2 (by simp)
  norm_num at this

lemma variance_of_le_one (xs : List Rat) (h : xs.length ≤ 1) : variance xs = 0 := by
  unfold variance
  rw [if_pos h]

lemma variance_nonneg (xs : List Rat) : 0 ≤ variance xs := by
  by_cases h : xs.length ≤ 1
  · rw [variance_of_le_one xs h]
  · rw [variance_eq xs (by omega)]; exact varSpec_nonneg xs (by omega)

/-- the reported variance is zero iff all values are equal (any length) -/
lemma variance_eq_zero_iff (xs : List Rat) : variance xs = 0 ↔ AllEq xs := by
  by_cases h : xs.length ≤ 1
  · simp [variance_of_le_one xs h, allEq_of_length_le_one xs h]
  · rw [variance_eq xs (by omega)]; exact varSpec_eq_zero_iff xs (by omega)

lemma two_le_of_variance_ne_zero (xs : List Rat) (h : variance xs ≠ 0) : 2 ≤ xs.length := by
  by_contra hc
  exact h (variance_of_le_one xs (by omega))

lemma variance_pos_of_ne (xs : List Rat) (h : variance xs ≠ 0) : 0 < variance xs :=
  lt_of_le_of_ne (variance_nonneg xs) (Ne.symm h)

/-! ## T1: textbook forms -/

/-- Pooled-variance two-sample t-test, textbook form: for samples of size ≥ 2 that are not
both of zero variance the model returns `num = mean x1 − mean x2`, `dof = n1 + n2 − 2`
and `den2 = s_p² (1/n1 + 1/n2)` with `s_p² = ((n1−1) var x1 + (n2−1) var x2)/(n1+n2−2)`,
where `mean`/`var` are the textbook `meanSpec`/`varSpec`. -/
theorem pooled_ok (x1 x2 : List Rat) (h1 : 2 ≤ x1.length) (h2 : 2 ≤ x2.length)
    (hv : ¬ (varSpec x1 = 0 ∧ varSpec x2 = 0)) :
    pooled x1 x2 = .ok
      { n1 := x1.length, n2 := x2.length,
        num := meanSpec x1 - meanSpec x2,
        den2 := (((x1.length : Rat) - 1) * varSpec x1 + ((x2.length : Rat) - 1) * varSpec x2)
                  / ((x1.length : Rat) + (x2.length : Rat) - 2)
                * (1 / (x1.length : Rat) + 1 / (x2.length : Rat)),
        dof := (x1.length : Rat) + (x2.length : Rat) - 2 } := by
  unfold pooled
  simp only [variance_eq x1 h1, variance_eq x2 h2, mean, beq_iff_eq]
  rw [if_neg (by omega), if_neg hv]

lemma pooled_ex : pooled [1, 2, 3, 4] [2, 4, 9] = .ok ⟨4, 3, -5 / 2, 217 / 60, 5⟩ := by
  rw [pooled_ok _ _ (by simp) (by simp) (by decide +kernel)]
  exact congrArg Except.ok (Stat.mk.injEq .. ▸
    ⟨rfl, rfl, by decide +kernel, by decide +kernel, by decide +kernel⟩)

example : pooled [1, 2, 3, 4] [2, 4, 9] = .ok ⟨4, 3, -5 / 2, 217 / 60, 5⟩ := pooled_ex

/-- Welch's unequal-variance t-test, textbook form: `den2 = var x1/n1 + var x2/n2` and the
Welch–Satterthwaite degrees of freedom
`(v1/n1 + v2/n2)² / ((v1/n1)²/(n1−1) + (v2/n2)²/(n2−1))`. -/
theorem welch_ok (x1 x2 : List Rat) (h1 : 2 ≤ x1.length) (h2 : 2 ≤ x2.length)
    (hv : ¬ (varSpec x1 = 0 ∧ varSpec x2 = 0)) :
    welch x1 x2 = .ok
      { n1 := x1.length, n2 := x2.length,
        num := meanSpec x1 - meanSpec x2,
        den2 := varSpec x1 / (x1.length : Rat) + varSpec x2 / (x2.length : Rat),
        dof := (varSpec x1 / (x1.length : Rat) + varSpec x2 / (x2.length : Rat)) ^ 2
                / ((varSpec x1 / (x1.length : Rat)) ^ 2 / ((x1.length : Rat) - 1)
                  + (varSpec x2 / (x2.length : Rat)) ^ 2 / ((x2.length : Rat) - 1)) } := by
  unfold welch
  simp only [variance_eq x1 h1, variance_eq x2 h2, mean, beq_iff_eq]
  rw [if_neg (by omega), if_neg hv]
  simp only [sq]

lemma welch_ex : welch [1, 2, 3, 4] [2, 4, 9] = .ok ⟨4, 3, -5 / 2, 19 / 4, 9747 / 4081⟩ := by
  rw [welch_ok _ _ (by simp) (by simp) (by decide +kernel)]
  exact congrArg Except.ok (Stat.mk.injEq .. ▸
    ⟨rfl, rfl, by decide +kernel, by decide +kernel, by decide +kernel⟩)

example : welch [1, 2, 3, 4] [2, 4, 9] = .ok ⟨4, 3, -5 / 2, 19 / 4, 9747 / 4081⟩ := welch_ex

def diffs (x1 x2 : List Rat) : List Rat := (x1.zip x2).map fun (a, b) => a - b

lemma length_diffs (x1 x2 : List Rat) (h : x1.length = x2.length) :
    (diffs x1 x2).length = x1.length := by
  simp [diffs, h]

lemma paired_eq (x1 x2 : List Rat) (mu0 : Rat) :
    paired x1 x2 mu0 =
      if x1.length ≠ x2.length then .error .mismatched
      else if x1.length ≤ 1 then .error .sampleSize
      else if variance (diffs x1 x2) = 0 then .error .zeroVariance
      else .ok ⟨x1.length, x2.length, mean (diffs x1 x2) - mu0,
        variance (diffs x1 x2) / (x1.length : Rat), (x1.length : Rat) - 1⟩ := by
  unfold paired diffs
  simp only [bne_iff_ne, ne_eq, beq_iff_eq]

lemma pooled_eq (x1 x2 : List Rat) :
    pooled x1 x2 =
      if x1 = [] ∨ x2 = [] then .error .sampleSize
      else if variance x1 = 0 ∧ variance x2 = 0 then .error .zeroVariance
      else .ok ⟨x1.length, x2.length, mean x1 - mean x2,
        (((x1.length : Rat) - 1) * variance x1 + ((x2.length : Rat) - 1) * variance x2)
          / ((x1.length : Rat) + (x2.length : Rat) - 2)
          * (1 / (x1.length : Rat) + 1 / (x2.length : Rat)),
        (x1.length : Rat) + (x2.length : Rat) - 2⟩ := by
  unfold pooled
  simp only [beq_iff_eq, List.length_eq_zero_iff]

lemma welch_eq (x1 x2 : List Rat) :
    welch x1 x2 =
      if x1.length ≤ 1 ∨ x2.length ≤ 1 then .error .sampleSize
      else if variance x1 = 0 ∧ variance x2 = 0 then .error .zeroVariance
      else .ok ⟨x1.length, x2.length, mean x1 - mean x2,
        variance x1 / (x1.length : Rat) + variance x2 / (x2.length : Rat),
        (variance x1 / (x1.length : Rat) + variance x2 / (x2.length : Rat)) ^ 2
          / ((variance x1 / (x1.length : Rat)) ^ 2 / ((x1.length : Rat) - 1)
            + (variance x2 / (x2.length : Rat)) ^ 2 / ((x2.length : Rat) - 1))⟩ := by
  unfold welch
  simp only [beq_iff_eq, sq]

lemma oneSample_eq (x : List Rat) (mu0 : Rat) :
    oneSample x mu0 =
      if x = [] then .error .sampleSize
      else if variance x = 0 then .error .zeroVariance
      else .ok ⟨x.length, 0, mean x - mu0, variance x / (x.length : Rat), (x.length : Rat) - 1⟩ := by
  unfold oneSample
  simp only [beq_iff_eq, List.length_eq_zero_iff]

/-- Paired t-test, textbook form: with `d` the list of pairwise differences (equal lengths
≥ 2, `d` not constant), `num = mean d − μ0`, `den2 = var d / n`, `dof = n − 1`. -/
theorem paired_ok (x1 x2 : List Rat) (mu0 : Rat) (hlen : x1.length = x2.length)
    (h1 : 2 ≤ x1.length) (hv : varSpec (diffs x1 x2) ≠ 0) :
    paired x1 x2 mu0 = .ok
      { n1 := x1.length, n2 := x2.length,
        num := meanSpec (diffs x1 x2) - mu0,
        den2 := varSpec (diffs x1 x2) / (x1.length : Rat),
        dof := (x1.length : Rat) - 1 } := by
  have hd : 2 ≤ (diffs x1 x2).length := by rw [length_diffs x1 x2 hlen]; exact h1
  rw [paired_eq, if_neg (by simpa using hlen), if_neg (by omega), variance_eq _ hd, if_neg hv]
  rfl

lemma paired_ex : paired [1, 2, 3, 4] [2, 4, 9, 3] (1 / 2) = .ok ⟨4, 4, -5 / 2, 13 / 6, 3⟩ := by
  rw [paired_ok _ _ _ (by simp) (by simp) (by decide +kernel)]
  exact congrArg Except.ok (Stat.mk.injEq .. ▸
    ⟨rfl, rfl, by decide +kernel, by decide +kernel, by decide +kernel⟩)

example : paired [1, 2, 3, 4] [2, 4, 9, 3] (1 / 2) = .ok ⟨4, 4, -5 / 2, 13 / 6, 3⟩ := paired_ex

/-- One-sample t-test, textbook form: for n ≥ 2 non-constant values, `num = mean x − μ0`,
`den2 = var x / n`, `dof = n − 1`. -/
theorem oneSample_ok (x : List Rat) (mu0 : Rat) (h1 : 2 ≤ x.length) (hv : varSpec x ≠ 0) :
    oneSample x mu0 = .ok
      { n1 := x.length, n2 := 0,
        num := meanSpec x - mu0,
        den2 := varSpec x / (x.length : Rat),
        dof := (x.length : Rat) - 1 } := by
  unfold oneSample
  simp only [variance_eq x h1, mean, beq_iff_eq]
  rw [if_neg (by omega), if_neg hv]

lemma oneSample_ex : oneSample [1, 2, 3, 4] 2 = .ok ⟨4, 0, 1 / 2, 5 / 12, 3⟩ := by
  rw [oneSample_ok _ _ (by simp) (by decide +kernel)]
  exact congrArg Except.ok (Stat.mk.injEq .. ▸
    ⟨rfl, rfl, by decide +kernel, by decide +kernel, by decide +kernel⟩)

example : oneSample [1, 2, 3, 4] 2 = .ok ⟨4, 0, 1 / 2, 5 / 12, 3⟩ := oneSample_ex

/-! ## T2: error characterisation -/

/-- Each test is a chain `if c then .error e₁ else …`: it returns the error of the first condition that
holds, and succeeds iff none does. -/
lemma ite_error_eq_error_iff {c : Prop} [Decidable c] (e₁ e : Err) (r : Except Err Stat) :
    (if c then .error e₁ else r) = .error e ↔ (e = e₁ ∧ c) ∨ (¬ c ∧ r = .error e) := by
  split_ifs with h
  · simp [h, eq_comm]
  · simp [h]

lemma ite_error_eq_ok_iff {c : Prop} [Decidable c] (e₁ : Err) (r : Except Err Stat) (st : Stat) :
    (if c then .error e₁ else r) = .ok st ↔ ¬ c ∧ r = .ok st := by
  split_ifs with h <;> simp [h]

/-- `pooled` fails exactly as follows: `sampleSize` iff one of the samples is empty;
`zeroVariance` iff both are non-empty and each sample is constant (all values equal —
in particular when both have a single element). No other error is returned. -/
theorem pooled_err_iff (x1 x2 : List Rat) (e : Err) :
    pooled x1 x2 = .error e ↔
      (e = .sampleSize ∧ (x1 = [] ∨ x2 = [])) ∨
      (e = .zeroVariance ∧ x1 ≠ [] ∧ x2 ≠ [] ∧ AllEq x1 ∧ AllEq x2) := by
  simp only [pooled_eq, ite_error_eq_error_iff, variance_eq_zero_iff, reduceCtorEq, and_false,
    or_false, not_or, ne_eq, and_assoc, and_left_comm]

example : pooled [3] [7, 7] = .error .zeroVariance :=
  (pooled_err_iff _ _ _).mpr (Or.inr ⟨rfl, by simp, by simp, by simp [AllEq], by simp [AllEq]⟩)
example : pooled [] [1, 2] = .error .sampleSize :=
  (pooled_err_iff _ _ _).mpr (Or.inl ⟨rfl, Or.inl rfl⟩)
example : pooled [1, 2, 3, 4] [2, 4, 9] ≠ .error .zeroVariance := fun h => by
  rcases (pooled_err_iff _ _ _).mp h with ⟨h, _⟩ | ⟨_, _, _, h, _⟩
  · cases h
  · have := h 1 (by simp) 2 (by simp); norm_num at this

/-- `pooled` succeeds iff both samples are non-empty and not both constant. -/
theorem pooled_isOk_iff (x1 x2 : List Rat) :
    (∃ st, pooled x1 x2 = .ok st) ↔ x1 ≠ [] ∧ x2 ≠ [] ∧ ¬ (AllEq x1 ∧ AllEq x2) := by
  simp only [pooled_eq, ite_error_eq_ok_iff, variance_eq_zero_iff, Except.ok.injEq,
    exists_and_left, exists_eq', and_true, not_or, ne_eq, and_assoc]

example : ∃ st, pooled [3] [1, 2] = .ok st :=
  (pooled_isOk_iff _ _).mpr ⟨by simp, by simp, fun h => by
    have := h.2 1 (by simp) 2 (by simp); norm_num at this⟩

/-- `welch` fails exactly as follows: `sampleSize` iff one of the samples has at most one
element; `zeroVariance` iff both have ≥ 2 elements and each sample is constant. -/
theorem welch_err_iff (x1 x2 : List Rat) (e : Err) :
    welch x1 x2 = .error e ↔
      (e = .sampleSize ∧ (x1.length ≤ 1 ∨ x2.length ≤ 1)) ∨
      (e = .zeroVariance ∧ 2 ≤ x1.length ∧ 2 ≤ x2.length ∧ AllEq x1 ∧ AllEq x2) := by
  simp only [welch_eq, ite_error_eq_error_iff, variance_eq_zero_iff, reduceCtorEq, and_false,
    or_false, not_or, not_le, Nat.lt_iff_add_one_le, and_assoc, and_left_comm]

example : welch [3] [1, 2] = .error .sampleSize :=
  (welch_err_iff _ _ _).mpr (Or.inl ⟨rfl, Or.inl (by simp)⟩)
example : welch [3, 3] [7, 7, 7] = .error .zeroVariance :=
  (welch_err_iff _ _ _).mpr
    (Or.inr ⟨rfl, by simp, by simp, by simp [AllEq], by simp [AllEq]⟩)

/-- `welch` succeeds iff both samples have ≥ 2 elements and are not both constant. -/
theorem welch_isOk_iff (x1 x2 : List Rat) :
    (∃ st, welch x1 x2 = .ok st) ↔
      2 ≤ x1.length ∧ 2 ≤ x2.length ∧ ¬ (AllEq x1 ∧ AllEq x2) := by
  simp only [welch_eq, ite_error_eq_ok_iff, variance_eq_zero_iff, Except.ok.injEq,
    exists_and_left, exists_eq', and_true, not_or, not_le, Nat.lt_iff_add_one_le, and_assoc]

example : ∃ st, welch [3, 3] [1, 2] = .ok st :=
  (welch_isOk_iff _ _).mpr ⟨by simp, by simp, fun h => by
    have := h.2 1 (by simp) 2 (by simp); norm_num at this⟩

/-- `paired` fails exactly as follows: `mismatched` iff the lengths differ; `sampleSize`
iff the lengths agree and are ≤ 1; `zeroVariance` iff the lengths agree, are ≥ 2 and all
pairwise differences are equal. -/
theorem paired_err_iff (x1 x2 : List Rat) (mu0 : Rat) (e : Err) :
    paired x1 x2 mu0 = .error e ↔
      (e = .mismatched ∧ x1.length ≠ x2.length) ∨
      (e = .sampleSize ∧ x1.length = x2.length ∧ x1.length ≤ 1) ∨
      (e = .zeroVariance ∧ x1.length = x2.length ∧ 2 ≤ x1.length ∧ AllEq (diffs x1 x2)) := by
  simp only [paired_eq, ite_error_eq_error_iff, variance_eq_zero_iff, reduceCtorEq, and_false,
    or_false, not_not, not_le, Nat.lt_iff_add_one_le, and_or_left, and_left_comm, ne_eq]

example : paired [1, 2] [3] 0 = .error .mismatched :=
  (paired_err_iff _ _ _ _).mpr (Or.inl ⟨rfl, by simp⟩)
example : paired [1] [3] 0 = .error .sampleSize :=
  (paired_err_iff _ _ _ _).mpr (Or.inr (Or.inl ⟨rfl, by simp, by simp⟩))
example : paired [1, 2, 5] [3, 4, 7] 0 = .error .zeroVariance :=
  (paired_err_iff _ _ _ _).mpr
    (Or.inr (Or.inr ⟨rfl, by simp, by simp, by norm_num [AllEq, diffs]⟩))

/-- `paired` succeeds iff the lengths agree, are ≥ 2, and the differences are not all equal. -/
theorem paired_isOk_iff (x1 x2 : List Rat) (mu0 : Rat) :
    (∃ st, paired x1 x2 mu0 = .ok st) ↔
      x1.length = x2.length ∧ 2 ≤ x1.length ∧ ¬ AllEq (diffs x1 x2) := by
  simp only [paired_eq, ite_error_eq_ok_iff, variance_eq_zero_iff, Except.ok.injEq,
    exists_and_left, exists_eq', and_true, not_not, not_le, Nat.lt_iff_add_one_le, ne_eq]

example : ∃ st, paired [1, 2, 5] [3, 4, 8] 0 = .ok st :=
  (paired_isOk_iff _ _ _).mpr ⟨by simp, by simp, fun h => by
    have := h (-2) (by norm_num [diffs]) (-3) (by norm_num [diffs]); norm_num at this⟩

/-- `oneSample` fails exactly as follows: `sampleSize` iff the sample is empty;
`zeroVariance` iff it is non-empty and constant (in particular a single value). -/
theorem oneSample_err_iff (x : List Rat) (mu0 : Rat) (e : Err) :
    oneSample x mu0 = .error e ↔
      (e = .sampleSize ∧ x = []) ∨ (e = .zeroVariance ∧ x ≠ [] ∧ AllEq x) := by
  simp only [oneSample_eq, ite_error_eq_error_iff, variance_eq_zero_iff, reduceCtorEq, and_false,
    or_false, ne_eq, and_left_comm]

example : oneSample [] 0 = .error .sampleSize :=
  (oneSample_err_iff _ _ _).mpr (Or.inl ⟨rfl, rfl⟩)
example : oneSample [5] 0 = .error .zeroVariance :=
  (oneSample_err_iff _ _ _).mpr (Or.inr ⟨rfl, by simp, by simp [AllEq]⟩)
example : oneSample [5, 5, 5] 1 = .error .zeroVariance :=
  (oneSample_err_iff _ _ _).mpr (Or.inr ⟨rfl, by simp, by simp [AllEq]⟩)

/-- `oneSample` succeeds iff the sample is not constant (hence has ≥ 2 elements). -/
theorem oneSample_isOk_iff (x : List Rat) (mu0 : Rat) :
    (∃ st, oneSample x mu0 = .ok st) ↔ ¬ AllEq x := by
  simp only [oneSample_eq, ite_error_eq_ok_iff, variance_eq_zero_iff, Except.ok.injEq,
    exists_and_left, exists_eq', and_true, and_iff_right_iff_imp]
  -- the empty sample is constant
  rintro h rfl
  exact h (allEq_of_length_le_one [] (Nat.zero_le 1))

example : ∃ st, oneSample [1, 2] 0 = .ok st :=
  (oneSample_isOk_iff _ _).mpr (fun h => by
    have := h 1 (by simp) 2 (by simp); norm_num at this)

/-! ## T3: swap law -/

/-- Swapping the two samples of the pooled test negates the numerator of T (hence T) and
keeps `den2` and the degrees of freedom. -/
theorem pooled_swap (x1 x2 : List Rat) (st : Stat) (h : pooled x1 x2 = .ok st) :
    pooled x2 x1 = .ok { st with n1 := st.n2, n2 := st.n1, num := -st.num } := by
  rw [pooled_eq, ite_error_eq_ok_iff, ite_error_eq_ok_iff, Except.ok.injEq] at h
  obtain ⟨h1, h2, rfl⟩ := h
  rw [pooled_eq, if_neg (mt Or.symm h1), if_neg (mt And.symm h2)]
  simp only [Except.ok.injEq, Stat.mk.injEq]
  refine ⟨trivial, trivial, by ring, by ring, by ring⟩

example : pooled [2, 4, 9] [1, 2, 3, 4] = .ok ⟨3, 4, 5 / 2, 217 / 60, 5⟩ := by
  have := pooled_swap _ _ _ pooled_ex
  norm_num at this
  exact this

/-- Swapping the two samples of Welch's test negates the numerator of T (hence T) and
keeps `den2` and the Welch–Satterthwaite degrees of freedom. -/
theorem welch_swap (x1 x2 : List Rat) (st : Stat) (h : welch x1 x2 = .ok st) :
    welch x2 x1 = .ok { st with n1 := st.n2, n2 := st.n1, num := -st.num } := by
  rw [welch_eq, ite_error_eq_ok_iff, ite_error_eq_ok_iff, Except.ok.injEq] at h
  obtain ⟨h1, h2, rfl⟩ := h
  rw [welch_eq, if_neg (mt Or.symm h1), if_neg (mt And.symm h2)]
  simp only [Except.ok.injEq, Stat.mk.injEq]
  refine ⟨trivial, trivial, by ring, by ring, ?_⟩
  rw [add_comm (variance x2 / _), add_comm (_ ^ 2 / _)]

example : welch [2, 4, 9] [1, 2, 3, 4] = .ok ⟨3, 4, 5 / 2, 19 / 4, 9747 / 4081⟩ := by
  have := welch_swap _ _ _ welch_ex
  norm_num at this
  exact this

def Stat.swap (st : Stat) : Stat := { st with n1 := st.n2, n2 := st.n1, num := -st.num }

/-- the t statistic as a real number, `num / √den2` -/
noncomputable def Stat.T (st : Stat) : ℝ := (st.num : ℝ) / Real.sqrt (st.den2 : ℝ)

/-- one-sided p-value, alternative "less": `F_ν(T)` -/
noncomputable def pLess (F : ℚ → ℝ → ℝ) (st : Stat) : ℝ := F st.dof st.T
/-- one-sided p-value, alternative "greater": `1 − F_ν(T)` -/
noncomputable def pGreater (F : ℚ → ℝ → ℝ) (st : Stat) : ℝ := 1 - F st.dof st.T
/-- two-sided p-value: `2 (1 − F_ν(|T|))` -/
noncomputable def pDiffers (F : ℚ → ℝ → ℝ) (st : Stat) : ℝ := 2 * (1 - F st.dof |st.T|)

/-- The model's representation is faithful: when `den2 > 0`, the real statistic
`T = num/√den2` satisfies `T² = num²/den2` and has the sign of `num`. -/
theorem T_sq_sign (st : Stat) (hd : 0 < st.den2) :
    st.T ^ 2 = ((st.num ^ 2 / st.den2 : ℚ) : ℝ) ∧
      SignType.sign st.T = SignType.sign (st.num : ℝ) := by
  have hd' : (0 : ℝ) < (st.den2 : ℝ) := by exact_mod_cast hd
  have hs : 0 < Real.sqrt (st.den2 : ℝ) := Real.sqrt_pos.mpr hd'
  constructor
  · unfold Stat.T
    rw [div_pow, Real.sq_sqrt hd'.le]; push_cast; ring
  · unfold Stat.T
    rcases lt_trichotomy (st.num : ℝ) 0 with h | h | h
    · rw [sign_neg h, sign_neg (div_neg_of_neg_of_pos h hs)]
    · rw [h]; simp
    · rw [sign_pos h, sign_pos (div_pos h hs)]

example : (Stat.mk 4 3 (-5 / 2) (217 / 60) 5).T ^ 2 = (((-5 / 2) ^ 2 / (217 / 60) : ℚ) : ℝ) :=
  (T_sq_sign _ (by norm_num)).1

/-- Swapping the samples negates T; hence for any CDF family `F` that is symmetric,
`F ν (−t) = 1 − F ν t`, the two one-sided p-values are exchanged and the two-sided p-value
is unchanged. -/
theorem pvalue_swap (F : ℚ → ℝ → ℝ) (hF : ∀ ν t, F ν (-t) = 1 - F ν t) (st : Stat) :
    st.swap.T = -st.T ∧
      pLess F st.swap = pGreater F st ∧
      pGreater F st.swap = pLess F st ∧
      pDiffers F st.swap = pDiffers F st := by
  have hT : st.swap.T = -st.T := by
    unfold Stat.T Stat.swap; push_cast; ring
  refine ⟨hT, ?_, ?_, ?_⟩
  · unfold pLess pGreater; rw [hT, hF]; rfl
  · unfold pLess pGreater; rw [hT, hF]; simp [Stat.swap]
  · unfold pDiffers; rw [hT, abs_neg]; rfl

/-- a concrete symmetric "CDF" for the examples -/
noncomputable def exF : ℚ → ℝ → ℝ := fun _ t => 1 / 2 + t / (2 * (1 + |t|))

lemma exF_symm : ∀ ν t, exF ν (-t) = 1 - exF ν t := by
  intro ν t; simp only [exF, abs_neg]; ring

example : pLess exF (Stat.mk 4 3 (-5 / 2) (217 / 60) 5).swap
    = pGreater exF (Stat.mk 4 3 (-5 / 2) (217 / 60) 5) :=
  (pvalue_swap exF exF_symm _).2.1

theorem pooled_pvalue_swap (F : ℚ → ℝ → ℝ) (hF : ∀ ν t, F ν (-t) = 1 - F ν t)
    (x1 x2 : List Rat) (st : Stat) (h : pooled x1 x2 = .ok st) :
    ∃ st', pooled x2 x1 = .ok st' ∧ st'.T = -st.T ∧ pLess F st' = pGreater F st ∧
      pGreater F st' = pLess F st ∧ pDiffers F st' = pDiffers F st :=
  ⟨st.swap, pooled_swap x1 x2 st h, pvalue_swap F hF st⟩

example : ∃ st', pooled [2, 4, 9] [1, 2, 3, 4] = .ok st' ∧
    st'.T = -(Stat.mk 4 3 (-5 / 2) (217 / 60) 5).T ∧
    pLess exF st' = pGreater exF ⟨4, 3, -5 / 2, 217 / 60, 5⟩ ∧
    pGreater exF st' = pLess exF ⟨4, 3, -5 / 2, 217 / 60, 5⟩ ∧
    pDiffers exF st' = pDiffers exF ⟨4, 3, -5 / 2, 217 / 60, 5⟩ :=
  pooled_pvalue_swap exF exF_symm _ _ _ pooled_ex

theorem welch_pvalue_swap (F : ℚ → ℝ → ℝ) (hF : ∀ ν t, F ν (-t) = 1 - F ν t)
    (x1 x2 : List Rat) (st : Stat) (h : welch x1 x2 = .ok st) :
    ∃ st', welch x2 x1 = .ok st' ∧ st'.T = -st.T ∧ pLess F st' = pGreater F st ∧
      pGreater F st' = pLess F st ∧ pDiffers F st' = pDiffers F st :=
  ⟨st.swap, welch_swap x1 x2 st h, pvalue_swap F hF st⟩

example : ∃ st', welch [2, 4, 9] [1, 2, 3, 4] = .ok st' ∧
    st'.T = -(Stat.mk 4 3 (-5 / 2) (19 / 4) (9747 / 4081)).T ∧
    pLess exF st' = pGreater exF ⟨4, 3, -5 / 2, 19 / 4, 9747 / 4081⟩ ∧
    pGreater exF st' = pLess exF ⟨4, 3, -5 / 2, 19 / 4, 9747 / 4081⟩ ∧
    pDiffers exF st' = pDiffers exF ⟨4, 3, -5 / 2, 19 / 4, 9747 / 4081⟩ :=
  welch_pvalue_swap exF exF_symm _ _ _ welch_ex

/-! ## T4: affine invariance -/

lemma sum_map_affine (k c : Rat) (xs : List Rat) :
    sum (xs.map fun x => k * x + c) = k * sum xs + (xs.length : Rat) * c := by
  induction xs with
  | nil => simp
  | cons x xs ih =>
    simp only [List.map_cons, sum_cons, ih, List.length_cons]; push_cast; ring

lemma meanSpec_map_affine (k c : Rat) (xs : List Rat) (h : xs ≠ []) :
    meanSpec (xs.map fun x => k * x + c) = k * meanSpec xs + c := by
  have hn : (xs.length : Rat) ≠ 0 := by
    have : xs.length ≠ 0 := by simpa using h
    exact_mod_cast this
  unfold meanSpec
  rw [sum_map_affine, List.length_map]
  field_simp

lemma meanSpec_map_mul (k : Rat) (xs : List Rat) :
    meanSpec (xs.map fun x => k * x) = k * meanSpec xs := by
  have := sum_map_affine k 0 xs
  simp only [add_zero, mul_zero] at this
  unfold meanSpec
  rw [this, List.length_map]; ring

lemma varSpec_map_affine (k c : Rat) (xs : List Rat) :
    varSpec (xs.map fun x => k * x + c) = k ^ 2 * varSpec xs := by
  by_cases h : xs = []
  · subst h; simp [varSpec_list_sum]
  · rw [varSpec_list_sum, varSpec_list_sum, meanSpec_map_affine k c xs h, List.map_map, List.length_map,
      ← mul_div_assoc, ← List.sum_map_mul_left]
    congr 2
    exact List.map_congr_left fun x _ => by simp only [Function.comp]; ring

lemma variance_map_affine (k c : Rat) (xs : List Rat) :
    variance (xs.map fun x => k * x + c) = k ^ 2 * variance xs := by
  unfold variance
  rw [List.length_map]
  split_ifs
  · simp
  · exact varSpec_map_affine k c xs

lemma diffs_map_affine (k c : Rat) (x1 x2 : List Rat) :
    diffs (x1.map fun x => k * x + c) (x2.map fun x => k * x + c)
      = (diffs x1 x2).map fun d => k * d + 0 := by
  unfold diffs
  rw [List.zip_map, List.map_map, List.map_map]
  apply List.map_congr_left
  rintro ⟨a, b⟩ _
  simp only [Function.comp, Prod.map]; ring

/-- the statistic after the data are rescaled by `k` (and shifted) -/
def Stat.scale (k : Rat) (st : Stat) : Stat :=
  { st with num := k * st.num, den2 := k ^ 2 * st.den2 }

lemma sq_mul_eq_zero_iff (k v : Rat) (hk : k ≠ 0) : k ^ 2 * v = 0 ↔ v = 0 := by
  simp [hk]

lemma welch_dof_scale (k a b p q : ℚ) (hk : k ≠ 0) :
    (k ^ 2 * a + k ^ 2 * b) ^ 2 / ((k ^ 2 * a) ^ 2 / p + (k ^ 2 * b) ^ 2 / q)
      = (a + b) ^ 2 / (a ^ 2 / p + b ^ 2 / q) := by
  rw [← mul_add, mul_pow, mul_pow, mul_pow, mul_div_assoc _ (a ^ 2), mul_div_assoc _ (b ^ 2),
    ← mul_add, mul_div_mul_left _ _ (pow_ne_zero 2 (pow_ne_zero 2 hk))]

/-- Welch's test under the affine map `x ↦ k x + c` (k ≠ 0) applied to both samples:
same DoF, `num` multiplied by `k`, `den2` by `k²`. -/
theorem welch_affine (k c : Rat) (hk : k ≠ 0) (x1 x2 : List Rat) (st : Stat)
    (h : welch x1 x2 = .ok st) :
    welch (x1.map fun x => k * x + c) (x2.map fun x => k * x + c) = .ok (st.scale k) := by
  rw [welch_eq, ite_error_eq_ok_iff, ite_error_eq_ok_iff, Except.ok.injEq] at h
  obtain ⟨h1, h2, rfl⟩ := h
  have hx1 : x1 ≠ [] := by rintro rfl; simp at h1
  have hx2 : x2 ≠ [] := by rintro rfl; simp at h1
  rw [welch_eq]
  simp only [List.length_map, variance_map_affine, mean, meanSpec_map_affine k c _ hx1,
    meanSpec_map_affine k c _ hx2, sq_mul_eq_zero_iff _ _ hk]
  rw [if_neg h1, if_neg h2]
  simp only [Stat.scale, Except.ok.injEq, Stat.mk.injEq]
  refine ⟨trivial, trivial, by ring, by ring, ?_⟩
  rw [← welch_dof_scale k (variance x1 / (x1.length : ℚ)) (variance x2 / (x2.length : ℚ))
    ((x1.length : ℚ) - 1) ((x2.length : ℚ) - 1) hk]
  congr 1 <;> ring

/-- Celsius → Fahrenheit -/
example : welch ([1, 2, 3, 4].map fun x => 9 / 5 * x + 32) ([2, 4, 9].map fun x => 9 / 5 * x + 32)
    = .ok (Stat.scale (9 / 5) ⟨4, 3, -5 / 2, 19 / 4, 9747 / 4081⟩) :=
  welch_affine (9 / 5) 32 (by norm_num) _ _ _ welch_ex

/-- The pooled test under the affine map `x ↦ k x + c` (k ≠ 0) applied to both samples:
same DoF, `num` multiplied by `k`, `den2` by `k²`. -/
theorem pooled_affine (k c : Rat) (hk : k ≠ 0) (x1 x2 : List Rat) (st : Stat)
    (h : pooled x1 x2 = .ok st) :
    pooled (x1.map fun x => k * x + c) (x2.map fun x => k * x + c) = .ok (st.scale k) := by
  rw [pooled_eq, ite_error_eq_ok_iff, ite_error_eq_ok_iff, Except.ok.injEq] at h
  obtain ⟨h1, h2, rfl⟩ := h
  rw [pooled_eq]
  simp only [List.length_map, variance_map_affine, mean, meanSpec_map_affine k c _ (not_or.1 h1).1,
    meanSpec_map_affine k c _ (not_or.1 h1).2, sq_mul_eq_zero_iff _ _ hk, List.map_eq_nil_iff]
  rw [if_neg h1, if_neg h2]
  simp only [Stat.scale, Except.ok.injEq, Stat.mk.injEq]
  refine ⟨trivial, trivial, by ring, by ring, trivial⟩

example : pooled ([1, 2, 3, 4].map fun x => 9 / 5 * x + 32) ([2, 4, 9].map fun x => 9 / 5 * x + 32)
    = .ok (Stat.scale (9 / 5) ⟨4, 3, -5 / 2, 217 / 60, 5⟩) :=
  pooled_affine (9 / 5) 32 (by norm_num) _ _ _ pooled_ex

/-- The paired test under `x ↦ k x + c` (k ≠ 0) on both samples with `μ0 ↦ k μ0` (the shift
cancels in the differences): same DoF, `num` multiplied by `k`, `den2` by `k²`. -/
theorem paired_affine (k c : Rat) (hk : k ≠ 0) (x1 x2 : List Rat) (mu0 : Rat) (st : Stat)
    (h : paired x1 x2 mu0 = .ok st) :
    paired (x1.map fun x => k * x + c) (x2.map fun x => k * x + c) (k * mu0)
      = .ok (st.scale k) := by
  rw [paired_eq, ite_error_eq_ok_iff, ite_error_eq_ok_iff, ite_error_eq_ok_iff,
    Except.ok.injEq] at h
  obtain ⟨h0, h1, h2, rfl⟩ := h
  have hd : diffs x1 x2 ≠ [] := by
    intro hd
    have := length_diffs x1 x2 (not_not.1 h0)
    rw [hd] at this
    exact h1 (this ▸ Nat.zero_le 1)
  rw [paired_eq]
  simp only [List.length_map, diffs_map_affine, variance_map_affine, mean, meanSpec_map_affine k 0 _ hd,
    sq_mul_eq_zero_iff _ _ hk]
  rw [if_neg h0, if_neg h1, if_neg h2]
  simp only [Stat.scale, Except.ok.injEq, Stat.mk.injEq]
  refine ⟨trivial, trivial, by ring, by ring, trivial⟩

example : paired ([1, 2, 3, 4].map fun x => 9 / 5 * x + 32)
    ([2, 4, 9, 3].map fun x => 9 / 5 * x + 32) (9 / 5 * (1 / 2))
    = .ok (Stat.scale (9 / 5) ⟨4, 4, -5 / 2, 13 / 6, 3⟩) :=
  paired_affine (9 / 5) 32 (by norm_num) _ _ _ _ paired_ex

/-- The one-sample test under `x ↦ k x + c` (k ≠ 0) with `μ0 ↦ k μ0 + c`: same DoF, `num`
multiplied by `k`, `den2` by `k²`. -/
theorem oneSample_affine (k c : Rat) (hk : k ≠ 0) (x : List Rat) (mu0 : Rat) (st : Stat)
    (h : oneSample x mu0 = .ok st) :
    oneSample (x.map fun x => k * x + c) (k * mu0 + c) = .ok (st.scale k) := by
  rw [oneSample_eq, ite_error_eq_ok_iff, ite_error_eq_ok_iff, Except.ok.injEq] at h
  obtain ⟨h1, h2, rfl⟩ := h
  rw [oneSample_eq]
  simp only [List.length_map, variance_map_affine, mean, meanSpec_map_affine k c _ h1,
    sq_mul_eq_zero_iff _ _ hk, List.map_eq_nil_iff]
  rw [if_neg h1, if_neg h2]
  simp only [Stat.scale, Except.ok.injEq, Stat.mk.injEq]
  refine ⟨trivial, trivial, by ring, by ring, trivial⟩

example : oneSample ([1, 2, 3, 4].map fun x => 9 / 5 * x + 32) (9 / 5 * 2 + 32)
    = .ok (Stat.scale (9 / 5) ⟨4, 0, 1 / 2, 5 / 12, 3⟩) :=
  oneSample_affine (9 / 5) 32 (by norm_num) _ _ _ oneSample_ex

/-- Consequence of the affine laws: for `k > 0` the rescaled statistic has the same DoF, the
same `T² = num²/den2`, the same sign of `num`, and the same real `T = num/√den2` — the
t statistic is invariant under a common positive affine change of units. -/
theorem scale_T_invariant (k : Rat) (hk : 0 < k) (st : Stat) :
    (st.scale k).dof = st.dof ∧
      (st.scale k).num ^ 2 / (st.scale k).den2 = st.num ^ 2 / st.den2 ∧
      SignType.sign (st.scale k).num = SignType.sign st.num ∧
      (st.scale k).T = st.T := by
  have hk2 : k ^ 2 ≠ 0 := pow_ne_zero 2 hk.ne'
  refine ⟨rfl, ?_, ?_, ?_⟩
  · simp only [Stat.scale]
    rw [mul_pow, mul_div_mul_left _ _ hk2]
  · simp only [Stat.scale]
    rw [sign_mul, sign_pos hk, one_mul]
  · have hkR : (0 : ℝ) < (k : ℝ) := by exact_mod_cast hk
    simp only [Stat.T, Stat.scale]
    push_cast
    rw [Real.sqrt_mul (by positivity), Real.sqrt_sq hkR.le, mul_div_mul_left _ _ hkR.ne']

example : (Stat.scale (9 / 5) ⟨4, 3, -5 / 2, 19 / 4, 9747 / 4081⟩).T
    = (Stat.mk 4 3 (-5 / 2) (19 / 4) (9747 / 4081)).T :=
  (scale_T_invariant (9 / 5) (by norm_num) _).2.2.2

/-- Welch's test is invariant under a common positive affine change of units
`x ↦ k x + c`, `k > 0`: the result has the same DoF, `num' = k·num`, `den2' = k²·den2`,
hence the same `T² = num²/den2`, the same sign of `num` and the same real `T`. -/
theorem welch_affine_T (k c : Rat) (hk : 0 < k) (x1 x2 : List Rat) (st : Stat)
    (h : welch x1 x2 = .ok st) :
    ∃ st', welch (x1.map fun x => k * x + c) (x2.map fun x => k * x + c) = .ok st' ∧
      st'.dof = st.dof ∧ st'.num = k * st.num ∧ st'.den2 = k ^ 2 * st.den2 ∧
      st'.num ^ 2 / st'.den2 = st.num ^ 2 / st.den2 ∧
      SignType.sign st'.num = SignType.sign st.num ∧ st'.T = st.T :=
  ⟨st.scale k, welch_affine k c hk.ne' x1 x2 st h, rfl, rfl, rfl, (scale_T_invariant k hk st).2⟩

example : ∃ st', welch ([1, 2, 3, 4].map fun x => 9 / 5 * x + 32)
      ([2, 4, 9].map fun x => 9 / 5 * x + 32) = .ok st' ∧
    st'.dof = 9747 / 4081 ∧ st'.num = 9 / 5 * (-5 / 2) ∧ st'.den2 = (9 / 5) ^ 2 * (19 / 4) ∧
    st'.num ^ 2 / st'.den2 = (-5 / 2) ^ 2 / (19 / 4) ∧
    SignType.sign st'.num = SignType.sign (-5 / 2 : ℚ) ∧
    st'.T = (Stat.mk 4 3 (-5 / 2) (19 / 4) (9747 / 4081)).T :=
  welch_affine_T (9 / 5) 32 (by norm_num) _ _ _ welch_ex

/-- The pooled test is invariant under a common positive affine change of units. -/
theorem pooled_affine_T (k c : Rat) (hk : 0 < k) (x1 x2 : List Rat) (st : Stat)
    (h : pooled x1 x2 = .ok st) :
    ∃ st', pooled (x1.map fun x => k * x + c) (x2.map fun x => k * x + c) = .ok st' ∧
      st'.dof = st.dof ∧ st'.num = k * st.num ∧ st'.den2 = k ^ 2 * st.den2 ∧
      st'.num ^ 2 / st'.den2 = st.num ^ 2 / st.den2 ∧
      SignType.sign st'.num = SignType.sign st.num ∧ st'.T = st.T :=
  ⟨st.scale k, pooled_affine k c hk.ne' x1 x2 st h, rfl, rfl, rfl, (scale_T_invariant k hk st).2⟩

example : ∃ st', pooled ([1, 2, 3, 4].map fun x => 9 / 5 * x + 32)
      ([2, 4, 9].map fun x => 9 / 5 * x + 32) = .ok st' ∧
    st'.dof = 5 ∧ st'.num = 9 / 5 * (-5 / 2) ∧ st'.den2 = (9 / 5) ^ 2 * (217 / 60) ∧
    st'.num ^ 2 / st'.den2 = (-5 / 2) ^ 2 / (217 / 60) ∧
    SignType.sign st'.num = SignType.sign (-5 / 2 : ℚ) ∧
    st'.T = (Stat.mk 4 3 (-5 / 2) (217 / 60) 5).T :=
  pooled_affine_T (9 / 5) 32 (by norm_num) _ _ _ pooled_ex

/-- The paired test is invariant under a common positive affine change of units, with the
hypothesised mean difference rescaled `μ0 ↦ k μ0` (the shift cancels). -/
theorem paired_affine_T (k c : Rat) (hk : 0 < k) (x1 x2 : List Rat) (mu0 : Rat) (st : Stat)
    (h : paired x1 x2 mu0 = .ok st) :
    ∃ st', paired (x1.map fun x => k * x + c) (x2.map fun x => k * x + c) (k * mu0) = .ok st' ∧
      st'.dof = st.dof ∧ st'.num = k * st.num ∧ st'.den2 = k ^ 2 * st.den2 ∧
      st'.num ^ 2 / st'.den2 = st.num ^ 2 / st.den2 ∧
      SignType.sign st'.num = SignType.sign st.num ∧ st'.T = st.T :=
  ⟨st.scale k, paired_affine k c hk.ne' x1 x2 mu0 st h, rfl, rfl, rfl,
    (scale_T_invariant k hk st).2⟩

example : ∃ st', paired ([1, 2, 3, 4].map fun x => 9 / 5 * x + 32)
      ([2, 4, 9, 3].map fun x => 9 / 5 * x + 32) (9 / 5 * (1 / 2)) = .ok st' ∧
    st'.dof = 3 ∧ st'.num = 9 / 5 * (-5 / 2) ∧ st'.den2 = (9 / 5) ^ 2 * (13 / 6) ∧
    st'.num ^ 2 / st'.den2 = (-5 / 2) ^ 2 / (13 / 6) ∧
    SignType.sign st'.num = SignType.sign (-5 / 2 : ℚ) ∧
    st'.T = (Stat.mk 4 4 (-5 / 2) (13 / 6) 3).T :=
  paired_affine_T (9 / 5) 32 (by norm_num) _ _ _ _ paired_ex

/-- The one-sample test is invariant under a positive affine change of units, with the
hypothesised mean mapped along, `μ0 ↦ k μ0 + c`. -/
theorem oneSample_affine_T (k c : Rat) (hk : 0 < k) (x : List Rat) (mu0 : Rat) (st : Stat)
    (h : oneSample x mu0 = .ok st) :
    ∃ st', oneSample (x.map fun x => k * x + c) (k * mu0 + c) = .ok st' ∧
      st'.dof = st.dof ∧ st'.num = k * st.num ∧ st'.den2 = k ^ 2 * st.den2 ∧
      st'.num ^ 2 / st'.den2 = st.num ^ 2 / st.den2 ∧
      SignType.sign st'.num = SignType.sign st.num ∧ st'.T = st.T :=
  ⟨st.scale k, oneSample_affine k c hk.ne' x mu0 st h, rfl, rfl, rfl,
    (scale_T_invariant k hk st).2⟩

example : ∃ st', oneSample ([1, 2, 3, 4].map fun x => 9 / 5 * x + 32) (9 / 5 * 2 + 32) = .ok st' ∧
    st'.dof = 3 ∧ st'.num = 9 / 5 * (1 / 2) ∧ st'.den2 = (9 / 5) ^ 2 * (5 / 12) ∧
    st'.num ^ 2 / st'.den2 = (1 / 2) ^ 2 / (5 / 12) ∧
    SignType.sign st'.num = SignType.sign (1 / 2 : ℚ) ∧
    st'.T = (Stat.mk 4 0 (1 / 2) (5 / 12) 3).T :=
  oneSample_affine_T (9 / 5) 32 (by norm_num) _ _ _ oneSample_ex

/-! ## T5: positivity -/

/-- the pooled sum of squares and the degrees of freedom, when the first sample is the non-constant one -/
lemma pooled_core_pos_left (n1 n2 v1 v2 : ℚ) (hn1 : 2 ≤ n1) (hn2 : 1 ≤ n2) (hv1 : 0 < v1)
    (hv2 : 0 ≤ v2) : 0 < (n1 - 1) * v1 + (n2 - 1) * v2 ∧ 0 < n1 + n2 - 2 :=
  ⟨add_pos_of_pos_of_nonneg (mul_pos (by linarith) hv1) (mul_nonneg (by linarith) hv2),
    by linarith⟩

lemma pooled_core_pos (n1 n2 v1 v2 : ℚ) (hn1 : 1 ≤ n1) (hn2 : 1 ≤ n2) (hv1 : 0 ≤ v1)
    (hv2 : 0 ≤ v2) (h1 : v1 ≠ 0 → 2 ≤ n1) (h2 : v2 ≠ 0 → 2 ≤ n2) (hne : ¬ (v1 = 0 ∧ v2 = 0)) :
    0 < ((n1 - 1) * v1 + (n2 - 1) * v2) / (n1 + n2 - 2) * (1 / n1 + 1 / n2) ∧
      0 < n1 + n2 - 2 := by
  have hr : 0 < 1 / n1 + 1 / n2 :=
    add_pos (one_div_pos.2 (by linarith)) (one_div_pos.2 (by linarith))
  have key : 0 < (n1 - 1) * v1 + (n2 - 1) * v2 ∧ 0 < n1 + n2 - 2 := by
    rcases not_and_or.1 hne with hz | hz
    · exact pooled_core_pos_left n1 n2 v1 v2 (h1 hz) hn2 (hv1.lt_of_ne' hz) hv2
    · rw [add_comm _ ((n2 - 1) * v2), add_comm n1]
      exact pooled_core_pos_left n2 n1 v2 v1 (h2 hz) hn1 (hv2.lt_of_ne' hz) hv1
  exact ⟨mul_pos (div_pos key.1 key.2) hr, key.2⟩

/-- Welch's `den2 = a + b` and Satterthwaite's `dof` are positive as soon as one of `a = v1/n1`,
`b = v2/n2` is. -/
lemma welch_core_pos (a b p q : ℚ) (ha : 0 ≤ a) (hb : 0 ≤ b) (hp : 0 < p) (hq : 0 < q)
    (hne : ¬ (a = 0 ∧ b = 0)) : 0 < a + b ∧ 0 < (a + b) ^ 2 / (a ^ 2 / p + b ^ 2 / q) := by
  have hA := div_nonneg (sq_nonneg a) hp.le
  have hB := div_nonneg (sq_nonneg b) hq.le
  have key : 0 < a + b ∧ 0 < a ^ 2 / p + b ^ 2 / q := by
    rcases not_and_or.1 hne with hz | hz
    · have ha' : 0 < a := ha.lt_of_ne' hz
      exact ⟨add_pos_of_pos_of_nonneg ha' hb, add_pos_of_pos_of_nonneg (div_pos (pow_pos ha' 2) hp) hB⟩
    · have hb' : 0 < b := hb.lt_of_ne' hz
      exact ⟨add_pos_of_nonneg_of_pos ha hb', add_pos_of_nonneg_of_pos hA (div_pos (pow_pos hb' 2) hq)⟩
  exact ⟨key.1, div_pos (pow_pos key.1 2) key.2⟩

lemma length_cast_ge_one (xs : List Rat) (h : xs ≠ []) : (1 : ℚ) ≤ (xs.length : ℚ) := by
  have : 1 ≤ xs.length := by
    cases xs with
    | nil => exact absurd rfl h
    | cons => simp
  exact_mod_cast this

/-- In every successful pooled result `den2 > 0` (T is well defined) and `dof > 0`. -/
theorem pooled_pos (x1 x2 : List Rat) (st : Stat) (h : pooled x1 x2 = .ok st) :
    0 < st.den2 ∧ 0 < st.dof := by
  rw [pooled_eq, ite_error_eq_ok_iff, ite_error_eq_ok_iff, Except.ok.injEq] at h
  obtain ⟨h1, h2, rfl⟩ := h
  have h1 := not_or.mp h1
  exact pooled_core_pos _ _ _ _ (length_cast_ge_one _ h1.1) (length_cast_ge_one _ h1.2)
    (variance_nonneg _) (variance_nonneg _)
    (fun hv => by exact_mod_cast two_le_of_variance_ne_zero _ hv)
    (fun hv => by exact_mod_cast two_le_of_variance_ne_zero _ hv) h2

example : (0 : ℚ) < 217 / 60 ∧ (0 : ℚ) < 5 := pooled_pos _ _ _ pooled_ex

/-- In every successful Welch result `den2 > 0` and the Welch–Satterthwaite `dof > 0`. -/
theorem welch_pos (x1 x2 : List Rat) (st : Stat) (h : welch x1 x2 = .ok st) :
    0 < st.den2 ∧ 0 < st.dof := by
  rw [welch_eq, ite_error_eq_ok_iff, ite_error_eq_ok_iff, Except.ok.injEq] at h
  obtain ⟨h1, h2, rfl⟩ := h
  have hn1 : (2 : ℚ) ≤ (x1.length : ℚ) := by exact_mod_cast (by omega : 2 ≤ x1.length)
  have hn2 : (2 : ℚ) ≤ (x2.length : ℚ) := by exact_mod_cast (by omega : 2 ≤ x2.length)
  have hp1 : (0 : ℚ) < (x1.length : ℚ) := by linarith
  have hp2 : (0 : ℚ) < (x2.length : ℚ) := by linarith
  exact welch_core_pos _ _ _ _ (div_nonneg (variance_nonneg _) hp1.le)
    (div_nonneg (variance_nonneg _) hp2.le) (by linarith) (by linarith)
    fun h => h2 ⟨(div_eq_zero_iff.1 h.1).resolve_right hp1.ne',
      (div_eq_zero_iff.1 h.2).resolve_right hp2.ne'⟩

example : (0 : ℚ) < 19 / 4 ∧ (0 : ℚ) < 9747 / 4081 := welch_pos _ _ _ welch_ex

/-- In every successful paired result `den2 > 0` and `dof > 0`. -/
theorem paired_pos (x1 x2 : List Rat) (mu0 : Rat) (st : Stat) (h : paired x1 x2 mu0 = .ok st) :
    0 < st.den2 ∧ 0 < st.dof := by
  rw [paired_eq, ite_error_eq_ok_iff, ite_error_eq_ok_iff, ite_error_eq_ok_iff,
    Except.ok.injEq] at h
  obtain ⟨h0, h1, h2, rfl⟩ := h
  have hn1 : (2 : ℚ) ≤ (x1.length : ℚ) := by exact_mod_cast (by omega : 2 ≤ x1.length)
  exact ⟨div_pos (variance_pos_of_ne _ h2) (by linarith), by simp only []; linarith⟩

example : (0 : ℚ) < 13 / 6 ∧ (0 : ℚ) < 3 := paired_pos _ _ _ _ paired_ex

/-- In every successful one-sample result `den2 > 0` and `dof > 0`. -/
theorem oneSample_pos (x : List Rat) (mu0 : Rat) (st : Stat) (h : oneSample x mu0 = .ok st) :
    0 < st.den2 ∧ 0 < st.dof := by
  rw [oneSample_eq, ite_error_eq_ok_iff, ite_error_eq_ok_iff, Except.ok.injEq] at h
  obtain ⟨h1, h2, rfl⟩ := h
  have hn1 : (2 : ℚ) ≤ (x.length : ℚ) := by exact_mod_cast two_le_of_variance_ne_zero _ h2
  exact ⟨div_pos (variance_pos_of_ne _ h2) (by linarith), by simp only []; linarith⟩

example : (0 : ℚ) < 5 / 12 ∧ (0 : ℚ) < 3 := oneSample_pos _ _ _ oneSample_ex

/-- In every `.ok` result of any of the four tests, `0 < den2`, so `T = num/√den2` is well
defined; and Welch's degrees of freedom are positive. -/
theorem den2_pos (st : Stat) :
    (∀ x1 x2, pooled x1 x2 = .ok st → 0 < st.den2) ∧
    (∀ x1 x2, welch x1 x2 = .ok st → 0 < st.den2 ∧ 0 < st.dof) ∧
    (∀ x1 x2 mu0, paired x1 x2 mu0 = .ok st → 0 < st.den2) ∧
    (∀ x mu0, oneSample x mu0 = .ok st → 0 < st.den2) :=
  ⟨fun x1 x2 h => (pooled_pos x1 x2 st h).1, fun x1 x2 h => welch_pos x1 x2 st h,
   fun x1 x2 mu0 h => (paired_pos x1 x2 mu0 st h).1, fun x mu0 h => (oneSample_pos x mu0 st h).1⟩

example : (0 : ℚ) < 19 / 4 ∧ (0 : ℚ) < 9747 / 4081 :=
  (den2_pos ⟨4, 3, -5 / 2, 19 / 4, 9747 / 4081⟩).2.1 _ _ welch_ex

end MV.TTest
