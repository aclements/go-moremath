import MV.Props.C02
/-!
# C02 (tied case) — the Cheung–Klotz recursion `aK` equals the brute-force count `countSpec`

Property theorems use `theorem`; helpers use `lemma`.
-/
namespace MV.UDist

@[simp] lemma sumList_nil : sumList [] = 0 := rfl
@[simp] lemma sumList_cons (x : Nat) (l : List Nat) : sumList (x :: l) = x + sumList l := by
  simp [sumList_eq]
@[simp] lemma sumList_append (l m : List Nat) : sumList (l ++ m) = sumList l + sumList m := by
  simp [sumList_eq]
@[simp] lemma sumList_reverse (l : List Nat) : sumList l.reverse = sumList l := by
  simp [sumList_eq]

/-! ## allocations -/

lemma mem_allocs {t r : List Nat} : r ∈ allocs t ↔ List.Forall₂ (· ≤ ·) r t := by
  induction t generalizing r with
  | nil => simp [allocs]
  | cons t ts ih => simp only [mem_allocs_cons, List.forall₂_cons_right_iff, ih]

lemma allocs_length {t r : List Nat} (h : r ∈ allocs t) : r.length = t.length :=
  (mem_allocs.1 h).length_eq

/-! ## the coefficients `a_k` and the identity `2U = Σ r_k a_k − n1²` -/

/-- `Σ_k r_k a_k` (zip semantics) -/
def dot : List Nat → List Nat → Nat
  | r :: rs, a :: as => r * a + dot rs as
  | _, _ => 0

/-- closed form of the coefficients: `a_k = 2 (s + t_0 + … + t_{k-2}) + t_{k-1}` -/
def aFrom (s : Nat) : List Nat → List Nat
  | [] => []
  | t :: ts => (2 * s + t) :: aFrom (s + t) ts

lemma aCoef_go_eq (s p : Nat) (l : List Nat) : aCoef.go (2 * s + p) p l = aFrom (s + p) l := by
  induction l generalizing s p with
  | nil => rfl
  | cons x l ih =>
    simp only [aCoef.go, aFrom]
    have : 2 * s + p + p + x = 2 * (s + p) + x := by ring
    rw [this, ih]

lemma aCoef_eq_aFrom (t : List Nat) : aCoef t = aFrom 0 t := by
  cases t with
  | nil => rfl
  | cons t0 ts =>
    have := aCoef_go_eq 0 t0 ts
    simp only [Nat.mul_zero, Nat.zero_add] at this
    simp [aCoef, aFrom, this]

lemma aFrom_append (s : Nat) (t u : List Nat) :
    aFrom s (t ++ u) = aFrom s t ++ aFrom (s + sumList t) u := by
  induction t generalizing s with
  | nil => simp [aFrom]
  | cons x t ih => simp [aFrom, ih, Nat.add_assoc]

lemma aCoef_take (t : List Nat) : (aCoef t).take t.length = aCoef t := by
  rw [← aCoef_length t]
  exact List.take_length

/-- appending a top group of size `x` appends the coefficient `2 Σt + x` -/
lemma aCoef_snoc (t : List Nat) (x : Nat) : aCoef (t ++ [x]) = aCoef t ++ [2 * sumList t + x] := by
  simp [aCoef_eq_aFrom, aFrom_append, aFrom]

lemma aFrom_ge (s : Nat) (t : List Nat) : ∀ x ∈ aFrom s t, 2 * s ≤ x := by
  induction t generalizing s with
  | nil => simp [aFrom]
  | cons y t ih =>
    intro x hx
    simp only [aFrom, List.mem_cons] at hx
    rcases hx with rfl | hx
    · omega
    · have := ih _ x hx; omega

lemma aFrom_sorted (s : Nat) (t : List Nat) : (aFrom s t).Pairwise (· ≤ ·) := by
  induction t generalizing s with
  | nil => simp [aFrom]
  | cons y t ih =>
    simp only [aFrom, List.pairwise_cons]
    refine ⟨fun x hx => ?_, ih _⟩
    have := aFrom_ge _ _ x hx; omega

lemma dot_snoc (r a : List Nat) (k x : Nat) (h : r.length = a.length) :
    dot (r ++ [k]) (a ++ [x]) = dot r a + k * x := by
  induction r generalizing a with
  | nil => cases a <;> simp_all [dot]
  | cons y r ih =>
    cases a with
    | nil => simp at h
    | cons b a =>
      simp only [List.cons_append, dot]
      rw [ih a (by simpa using h)]; ring

/-- general form of the identity, started at `below2 = b` with `m` sample-1 items below
and `s = b + m` pooled items below -/
lemma twoUof_eq_dot_aux {t r : List Nat} (h : List.Forall₂ (· ≤ ·) r t) (b m : Nat) :
    ((twoUof t r b : Nat) : Int) =
      (dot r (aFrom (b + m) t) : Int) - (((m + sumList r) ^ 2 : Nat) : Int) + ((m ^ 2 : Nat) : Int) := by
  induction h generalizing b m with
  | nil => simp [twoUof, dot]
  | @cons rk tk rs ts hk _ ih =>
    simp only [twoUof, aFrom, dot, sumList_cons]
    have e : b + m + tk = (b + (tk - rk)) + (m + rk) := by omega
    rw [e]
    push_cast
    rw [ih (b + (tk - rk)) (m + rk)]
    push_cast [Nat.cast_sub hk]
    ring

/-- **Cheung–Klotz identity**: for an allocation `r` of the tie vector `t`,
`2U = Σ_k r_k a_k − (Σ r)²` where `a = aCoef t`. -/
theorem twoUof_eq_dot (t r : List Nat) (h : r ∈ allocs t) :
    ((twoUof t r 0 : Nat) : Int) = (dot r (aCoef t) : Int) - ((sumList r : Nat) : Int) ^ 2 := by
  have := twoUof_eq_dot_aux (mem_allocs.1 h) 0 0
  simp only [Nat.add_zero, Nat.zero_add] at this
  rw [this, aCoef_eq_aFrom]; push_cast; ring

example : ((twoUof [2, 1, 3] [1, 1, 2] 0 : Nat) : Int)
    = (dot [1, 1, 2] (aCoef [2, 1, 3]) : Int) - ((sumList [1, 1, 2] : Nat) : Int) ^ 2 := by decide +kernel

lemma aCoef_snoc_getD (t : List Nat) (x : Nat) :
    (aCoef (t ++ [x])).getD ((t ++ [x]).length - 1) 0 = 2 * sumList t + x := by
  rw [aCoef_snoc, List.getD_eq_getElem?_getD]
  simp [aCoef_length]

/-- **Peeling the top group**: choosing `k ≤ x` items of a new top group of size `x` on top of an
allocation `r` of `t` changes `2U` by `k * (a_K − 2 n1 + k)` where `a_K` is the last coefficient of
`aCoef (t ++ [x])` and `n1 = Σ r + k` is the new sample-1 size. -/
theorem twoUof_snoc (t r : List Nat) (x k : Nat) (h : r ∈ allocs t) (hk : k ≤ x) :
    ((twoUof (t ++ [x]) (r ++ [k]) 0 : Nat) : Int) =
      (twoUof t r 0 : Nat) +
        (k : Int) * (((aCoef (t ++ [x])).getD ((t ++ [x]).length - 1) 0 : Nat) - 2 * ((sumList r + k : Nat) : Int) + k) := by
  have hle := (twoUof_bound t r 0 h).1
  obtain ⟨-, hU⟩ := weight_twoUof_snoc t x k r h
  rw [hU, aCoef_snoc_getD, sumList_eq, sumList_eq]
  push_cast [Nat.cast_sub hle, Nat.cast_sub hk]
  ring

example : ((twoUof ([2, 1] ++ [3]) ([1, 1] ++ [2]) 0 : Nat) : Int) =
    (twoUof [2, 1] [1, 1] 0 : Nat) +
      (2 : Int) * (((aCoef ([2, 1] ++ [3])).getD (([2, 1] ++ [3]).length - 1) 0 : Nat) - 2 * ((sumList [1, 1] + 2 : Nat) : Int) + 2) := by
  decide +kernel

/-! ## greedy bounds -/

/-- Exchange argument, one group at a time: with coefficients ascending, whatever `r` puts into the
first group beyond the greedy amount `min n tk` is carried as slack `d` and priced at the lower
bound `c` of the remaining coefficients; what it puts there less, the greedy remainder takes later
at coefficients `≥ ak`.  (`dot_le_greedy` is the same with the order reversed.) -/
lemma greedy_le_dot {t r : List Nat} (h : List.Forall₂ (· ≤ ·) r t) :
    ∀ (a : List Nat), a.length = t.length → a.Pairwise (· ≤ ·) → ∀ (c : Nat), (∀ x ∈ a, c ≤ x) →
      ∀ (n d : Nat), sumList r = n + d → greedy n t a + d * c ≤ dot r a := by
  induction h with
  | nil =>
    intro a _ _ c _ n d hsum
    simp only [sumList_nil] at hsum
    have : d = 0 := by omega
    subst this; simp [greedy]
  | @cons rk tk rs ts hk _ ih =>
    intro a ha hs c hc n d hsum
    cases a with
    | nil => simp at ha
    | cons ak as =>
      simp only [List.length_cons, Nat.add_right_cancel_iff] at ha
      rw [List.pairwise_cons] at hs
      simp only [sumList_cons] at hsum
      simp only [greedy, dot]
      obtain ⟨d', hd'⟩ : ∃ d', d' + rk = d + min n tk := ⟨d + min n tk - rk, by omega⟩
      have IH := ih as ha hs.2 ak hs.1 (n - min n tk) d' (by omega)
      have hcak : c ≤ ak := hc ak (by simp)
      have h1 : d * c ≤ d * ak := Nat.mul_le_mul_left _ hcak
      have h2 : d' * ak + rk * ak = d * ak + min n tk * ak := by rw [← add_mul, hd', add_mul]
      omega

lemma dot_le_greedy {t r : List Nat} (h : List.Forall₂ (· ≤ ·) r t) :
    ∀ (a : List Nat), a.length = t.length → a.Pairwise (· ≥ ·) → ∀ (c : Nat), (∀ x ∈ a, x ≤ c) →
      ∀ (n d : Nat), sumList r ≤ n + d → dot r a ≤ greedy n t a + d * c := by
  induction h with
  | nil =>
    intro a _ _ c _ n d _
    simp [dot]
  | @cons rk tk rs ts hk hrest ih =>
    intro a ha hs c hc n d hsum
    cases a with
    | nil => simp at ha
    | cons ak as =>
      simp only [List.length_cons, Nat.add_right_cancel_iff] at ha
      rw [List.pairwise_cons] at hs
      simp only [sumList_cons] at hsum
      simp only [greedy, dot]
      obtain ⟨d', hd'⟩ : ∃ d', d' + rk = d + min n tk := ⟨d + min n tk - rk, by omega⟩
      have IH := ih as ha hs.2 ak hs.1 (n - min n tk) d' (by omega)
      have hcak : ak ≤ c := hc ak (by simp)
      have h1 : d * ak ≤ d * c := Nat.mul_le_mul_left _ hcak
      have h2 : d' * ak + rk * ak = d * ak + min n tk * ak := by rw [← add_mul, hd', add_mul]
      omega

lemma dot_reverse (r a : List Nat) (h : r.length = a.length) :
    dot r.reverse a.reverse = dot r a := by
  induction r generalizing a with
  | nil => cases a <;> simp_all [dot]
  | cons y r ih =>
    cases a with
    | nil => simp at h
    | cons b a =>
      have h' : r.length = a.length := by simpa using h
      simp only [List.reverse_cons]
      rw [dot_snoc _ _ _ _ (by simpa using h'), ih a h']
      simp only [dot]; ring

lemma greedy_append_right (n : Nat) (t a b : List Nat) (h : a.length = t.length) :
    greedy n t (a ++ b) = greedy n t a := by
  induction t generalizing n a with
  | nil => cases a <;> simp_all [greedy]
  | cons x t ih =>
    cases a with
    | nil => simp at h
    | cons y a =>
      simp only [List.cons_append, greedy]
      rw [ih _ a (by simpa using h)]

/-- **Greedy lower bound is valid**: every allocation `r` of `t` with `Σ r = n1` has
`twoUmin(n1) ≤ 2U(r)`, where `twoUmin` fills the groups greedily from the lowest rank. -/
theorem twoUmin_le (t r : List Nat) (n1 : Nat) (h : r ∈ allocs t) (hs : sumList r = n1) :
    twoUminM n1 t (aCoef t) ≤ ((twoUof t r 0 : Nat) : Int) := by
  rw [twoUof_eq_dot t r h, hs]
  unfold twoUminM
  have := greedy_le_dot (mem_allocs.1 h) (aCoef t) (aCoef_length t)
    (by rw [aCoef_eq_aFrom]; exact aFrom_sorted 0 t) 0 (fun _ _ => Nat.zero_le _) n1 0 (by omega)
  push_cast
  rw [sq]
  omega

example : twoUminM 4 [2, 1, 3] (aCoef [2, 1, 3]) ≤ ((twoUof [2, 1, 3] [1, 1, 2] 0 : Nat) : Int) :=
  twoUmin_le _ _ _ (by decide) (by decide)

/-- **Greedy upper bound is valid**: every allocation `r` of `t` with `Σ r = n1` has
`2U(r) ≤ twoUmax(n1)`, where `twoUmax` fills the groups greedily from the highest rank. -/
theorem le_twoUmax (t r : List Nat) (n1 : Nat) (h : r ∈ allocs t) (hs : sumList r = n1) :
    ((twoUof t r 0 : Nat) : Int) ≤ twoUmaxM n1 t (aCoef t) := by
  rw [twoUof_eq_dot t r h, hs]
  unfold twoUmaxM
  rw [aCoef_take]
  have hF : List.Forall₂ (· ≤ ·) r.reverse t.reverse := List.rel_reverse (mem_allocs.1 h)
  have hsorted : (aCoef t).reverse.Pairwise (· ≥ ·) := by
    rw [List.pairwise_reverse, aCoef_eq_aFrom]; exact aFrom_sorted 0 t
  -- upper bound for the coefficients: any common bound works since d = 0
  obtain ⟨c, hc⟩ : ∃ c, ∀ x ∈ (aCoef t).reverse, x ≤ c :=
    ⟨(aCoef t).sum, fun x hx => List.single_le_sum (fun _ _ => Nat.zero_le _) x (by simpa using hx)⟩
  have := dot_le_greedy hF (aCoef t).reverse (by simp [aCoef_length]) hsorted c hc n1 0 (by simp [hs])
  rw [dot_reverse _ _ (by rw [allocs_length h, aCoef_length])] at this
  push_cast
  rw [sq]
  omega

example : ((twoUof [2, 1, 3] [1, 1, 2] 0 : Nat) : Int) ≤ twoUmaxM 4 [2, 1, 3] (aCoef [2, 1, 3]) :=
  le_twoUmax _ _ _ (by decide) (by decide)

/-- for vectors that are not allocations of `t` the two bounds fail: -/
example : ¬ (twoUminM 3 [1, 5] (aCoef [1, 5]) ≤ ((twoUof [1, 5] [3, 0] 0 : Nat) : Int)) := by decide +kernel
example : ¬ (((twoUof [1] [2] 0 : Nat) : Int) ≤ twoUmaxM 2 [1] (aCoef [1])) := by decide +kernel

lemma twoUminM_snoc (n : Nat) (t : List Nat) (x : Nat) :
    twoUminM n t (aCoef (t ++ [x])) = twoUminM n t (aCoef t) := by
  unfold twoUminM
  rw [aCoef_snoc, greedy_append_right _ _ _ _ (aCoef_length t)]

lemma twoUmaxM_snoc (n : Nat) (t : List Nat) (x : Nat) :
    twoUmaxM n t (aCoef (t ++ [x])) = twoUmaxM n t (aCoef t) := by
  unfold twoUmaxM
  rw [aCoef_snoc, List.take_left' (aCoef_length t), aCoef_take]

/-! ## Vandermonde and the consequences for `countSpec` -/

/-- **Vandermonde**: the labelings over all allocations with `Σ r = n` number `choose (Σ t) n`. -/
theorem weight_sum (t : List Nat) (n : Nat) :
    sumList (((allocs t).filter fun r => sumList r == n).map (weight t)) = choose (sumList t) n := by
  rw [choose_eq_nat, sumList_eq t]
  exact (sumList_filter_map _ _ _ _ fun r => by simp [sumList_eq]).trans (asum_weight t n)

example : sumList (((allocs [2, 1, 3]).filter fun r => sumList r == 4).map (weight [2, 1, 3]))
    = choose (sumList [2, 1, 3]) 4 := weight_sum _ _

lemma countSpec_of_max_le (t : List Nat) (n : Nat) (v : Int) (h : twoUmaxM n t (aCoef t) ≤ v) :
    countSpec t n v = choose (sumList t) n := by
  rw [countSpec_eq_asum, choose_eq_nat, sumList_eq, ← asum_weight]
  apply asum_congr
  intro r hr
  by_cases hs : r.sum = n
  · rw [if_pos hs, if_pos ⟨hs, le_trans (le_twoUmax t r n hr ((sumList_eq r).trans hs)) h⟩]
  · rw [if_neg hs, if_neg (fun h => hs h.1)]

lemma countSpec_of_lt_min (t : List Nat) (n : Nat) (v : Int) (h : v < twoUminM n t (aCoef t)) :
    countSpec t n v = 0 := by
  rw [countSpec_eq_asum]
  apply asum_eq_zero
  intro r hr
  rw [if_neg]
  rintro ⟨hs, hv⟩
  have := twoUmin_le t r n hr ((sumList_eq r).trans hs)
  omega

lemma countSpec_of_sum_lt (t : List Nat) (n : Nat) (v : Int) (h : sumList t < n) :
    countSpec t n v = 0 := by
  rw [countSpec_eq_asum]
  apply asum_eq_zero
  intro r hr
  rw [if_neg]
  rintro ⟨hs, _⟩
  have := (twoUof_bound t r 0 hr).1
  rw [sumList_eq] at h
  omega

/-- the recursion on the spec side: peel the top group -/
lemma countSpec_snoc (t : List Nat) (x n1 : Nat) (twoU : Int) :
    countSpec (t ++ [x]) n1 twoU =
      ∑ k ∈ Finset.range (x + 1),
        if k ≤ n1 then
          countSpec t (n1 - k)
            (twoU - (k : Int) * (((2 * sumList t + x : Nat) : Int) - 2 * (n1 : Int) + k)) * choose x k
        else 0 := by
  rw [countSpec_eq_asum, asum_snoc, asum_finset_sum]
  apply Finset.sum_congr rfl
  intro k hk
  have hkx : k ≤ x := by simp only [Finset.mem_range] at hk; omega
  split_ifs with hkn
  · rw [countSpec_eq_asum, ← asum_mul_right]
    apply asum_congr
    intro r hr
    have hU := twoUof_snoc t r x k hr hkx
    rw [aCoef_snoc_getD, sumList_eq r] at hU
    obtain ⟨hw, -⟩ := weight_twoUof_snoc t x k r hr
    rw [hw]
    simp only [List.sum_append, List.sum_cons, List.sum_nil, Nat.add_zero]
    by_cases hs : r.sum = n1 - k
    · have hs' : r.sum + k = n1 := by omega
      rw [hU, hs']
      by_cases hv : ((twoUof t r 0 : Nat) : Int) ≤
          twoU - (k : Int) * (((2 * sumList t + x : Nat) : Int) - 2 * (n1 : Int) + k)
      · rw [if_pos ⟨rfl, by omega⟩, if_pos ⟨hs, hv⟩]
      · rw [if_neg (fun h => hv (by have := h.2; omega)), if_neg (fun h => hv h.2), zero_mul]
    · rw [if_neg (fun h => hs (by omega)), if_neg (fun h => hs h.1), zero_mul]
  · apply asum_eq_zero
    intro r _
    simp only [List.sum_append, List.sum_cons, List.sum_nil, Nat.add_zero]
    rw [if_neg (fun h => hkn (by omega))]

/-! ## the recursion step (K ≥ 3) -/

lemma aK_step (tk : Nat) (rest : List Nat) (hlen : 2 ≤ rest.length)
    (IH : ∀ n1' twoU', twoUminM n1' rest.reverse (aCoef rest.reverse) ≤ twoU' →
        aK rest n1' twoU' = countSpec rest.reverse n1' twoU')
    (n1 : Nat) (twoU : Int) :
    aK (tk :: rest) n1 twoU = countSpec (tk :: rest).reverse n1 twoU := by
  rw [aK.eq_2 _ _ _ _ (by intro t0 h; subst h; simp at hlen), if_neg (by omega)]
  simp only [List.reverse_cons]
  rw [aCoef_snoc_getD]
  simp only [twoUminM_snoc, twoUmaxM_snoc]
  rw [← sumList_reverse rest]
  set tprev := rest.reverse with htp
  have key : ∀ (n1' : Nat) (twoU' : Int),
      (if twoUminM n1' tprev (aCoef tprev) ≤ twoU' ∧ twoU' ≤ twoUmaxM n1' tprev (aCoef tprev) then
          aK rest n1' twoU'
        else if twoUmaxM n1' tprev (aCoef tprev) < twoU' then choose (sumList tprev) n1' else 0)
        = countSpec tprev n1' twoU' := by
    intro n1' twoU'
    split_ifs with h1 h2
    · exact IH _ _ h1.1
    · exact (countSpec_of_max_le _ _ _ (le_of_lt h2)).symm
    · refine (countSpec_of_lt_min _ _ _ ?_).symm
      by_contra hc
      exact h1 ⟨not_lt.1 hc, not_lt.1 h2⟩
  simp only [key]
  rw [← List.sum_eq_foldl, sum_range_list, countSpec_snoc]
  set lo := n1 - sumList tprev with hlo
  rw [← Finset.sum_Ico_eq_sum_range (fun k =>
      countSpec tprev (n1 - k)
        (twoU - (k : Int) * (((2 * sumList tprev + tk : Nat) : Int) - 2 * (n1 : Int) + k)) * choose tk k)
      lo (min n1 tk + 1)]
  have hsub : Finset.Ico lo (min n1 tk + 1) ⊆ Finset.range (tk + 1) := by
    intro k; simp only [Finset.mem_Ico, Finset.mem_range]
    omega
  rw [← Finset.sum_subset hsub]
  · apply Finset.sum_congr rfl
    intro k hk
    simp only [Finset.mem_Ico] at hk
    rw [if_pos (by omega)]
  · intro k hk1 hk2
    simp only [Finset.mem_Ico, Finset.mem_range, not_and, not_lt] at hk1 hk2
    split_ifs with hkn
    · have hlt : k < lo := by omega
      rw [countSpec_of_sum_lt _ _ _ (by omega), zero_mul]
    · rfl

/-! ## the two-rank closed form (K = 2) -/

/-- for two groups the count is a double sum over `(r₀, r₁)`; the constraint `r₀ + r₁ = n1` leaves
`r₀ = n1 - k` for `r₁ = k`, and then `2U = k (t₀ + t₁) + n1 (t₀ - n1)` -/
lemma countSpec_two (t0 t1 n1 : Nat) (twoU : Int) :
    countSpec [t0, t1] n1 twoU =
      ∑ k ∈ Finset.range (t1 + 1),
        if k ≤ n1 ∧ n1 - k ≤ t0 ∧ (k : Int) * ((t0 + t1 : Nat) : Int) ≤ twoU - (n1 : Int) * ((t0 : Int) - n1)
        then choose t0 (n1 - k) * choose t1 k else 0 := by
  rw [countSpec_eq_asum, asum_cons]
  simp only [asum_cons, asum_nil, List.sum_cons, List.sum_nil, twoUof, weight]
  rw [Finset.sum_comm]
  refine Finset.sum_congr rfl fun k hk => ?_
  obtain ⟨s1, rfl⟩ := Nat.exists_eq_add_of_le (Nat.lt_succ_iff.1 (Finset.mem_range.1 hk))
  by_cases h : k ≤ n1 ∧ n1 - k ≤ t0
  · obtain ⟨a, rfl⟩ := Nat.exists_eq_add_of_le' h.1
    rw [Nat.add_sub_cancel] at h ⊢
    obtain ⟨s0, rfl⟩ := Nat.exists_eq_add_of_le h.2
    rw [Finset.sum_eq_single a]
    · have e : (((a * (2 * 0 + (a + s0 - a)) + (k * (2 * (0 + (a + s0 - a)) + (k + s1 - k)) + 0) : Nat) : Int))
          = (k : Int) * ((a + s0 + (k + s1) : Nat) : Int) + ((a + k : Nat) : Int) * (((a + s0 : Nat) : Int) - ((a + k : Nat) : Int)) := by
        rw [Nat.add_sub_cancel_left, Nat.add_sub_cancel_left]
        push_cast
        ring
      refine if_congr ?_ (by ring) rfl
      rw [e]
      exact ⟨fun h' => ⟨h.1, h.2, by omega⟩, fun h' => ⟨by omega, by omega⟩⟩
    · intro r _ hr
      exact if_neg fun h' => hr (by omega)
    · intro ha
      exact absurd (Finset.mem_range.2 (by omega)) ha
  · rw [if_neg fun h' => h ⟨h'.1, h'.2.1⟩]
    refine Finset.sum_eq_zero fun r hr => if_neg fun h' => h ?_
    have := Finset.mem_range.1 hr
    omega

/-- **K = 2 closed form**: the two-rank closed form with *floor* division equals the brute-force
count for every `n1` and every (possibly negative) `twoU`, provided the pool is non-empty. -/
theorem aK_two (t0 t1 n1 : Nat) (twoU : Int) (h : 0 < t0 + t1) :
    aK [t1, t0] n1 twoU = countSpec [t0, t1] n1 twoU := by
  rw [aK.eq_1, countSpec_two]
  have hDpos : (0 : Int) < ((t0 + t1 : Nat) : Int) := by exact_mod_cast h
  -- this is where FLOOR division is essential: `k ≤ ⌊num / D⌋ ↔ k * D ≤ num`
  rw [Int.fdiv_eq_ediv_of_nonneg _ (le_of_lt hDpos)]
  set num : Int := twoU - (n1 : Int) * ((t0 : Int) - n1) with hnum
  have hhi : ∀ k : Int, k ≤ num / ((t0 + t1 : Nat) : Int) ↔ k * ((t0 + t1 : Nat) : Int) ≤ num :=
    fun k => Int.le_ediv_iff_mul_le hDpos
  generalize num / ((t0 + t1 : Nat) : Int) = hi at hhi ⊢
  set lo : Int := max 0 ((n1 : Int) - t0) with hlo
  have hG : ∀ k : Nat,
      (if k ≤ n1 ∧ n1 - k ≤ t0 ∧ (k : Int) * ((t0 + t1 : Nat) : Int) ≤ num
        then choose t0 (n1 - k) * choose t1 k else 0)
      = if lo ≤ (k : Int) ∧ (k : Int) ≤ hi
          then (if k > n1 then 0 else choose t0 (n1 - k) * choose t1 k) else 0 := by
    intro k
    have hk := hhi k
    by_cases h1 : k ≤ n1
    · rw [if_neg (not_lt.2 h1)]
      apply if_congr _ rfl rfl
      constructor
      · rintro ⟨_, h2, h3⟩; exact ⟨by omega, hk.2 h3⟩
      · rintro ⟨h2, h3⟩; exact ⟨h1, by omega, hk.1 h3⟩
    · rw [if_neg (fun h => h1 h.1), if_pos (by omega : k > n1)]; simp
  simp only [hG]
  split_ifs with hlt
  · symm; apply Finset.sum_eq_zero; intro k _; rw [if_neg]; intro h; omega
  · rw [← List.sum_eq_foldl, sum_range_list, ← Finset.sum_filter]
    have e := Finset.sum_Ico_eq_sum_range
      (fun k => if k > n1 then 0 else choose t0 (n1 - k) * choose t1 k)
      lo.toNat (lo.toNat + (hi - lo + 1).toNat)
    rw [Nat.add_sub_cancel_left] at e
    rw [← e]
    symm
    apply Finset.sum_subset
    · intro k; simp only [Finset.mem_filter, Finset.mem_range, Finset.mem_Ico]; omega
    · intro k hk1 hk2
      simp only [Finset.mem_filter, Finset.mem_range, Finset.mem_Ico, not_and] at hk1 hk2
      have hkt : t1 < k := by
        by_contra hc
        exact hk2 (by omega) (by omega) (by omega)
      rw [choose_eq_nat t1 k, Nat.choose_eq_zero_of_lt hkt]
      simp

lemma aK_two_zero (n1 : Nat) (twoU : Int) (h : n1 ≠ 0 ∨ 0 ≤ twoU) :
    aK [0, 0] n1 twoU = countSpec [0, 0] n1 twoU := by
  by_cases hn : n1 = 0
  · subst hn
    have h0 : 0 ≤ twoU := by rcases h with h | h; exact absurd rfl h; exact h
    rw [countSpec_two, aK.eq_1]
    simp [choose, h0]
  · rw [countSpec_of_sum_lt _ _ _ (by simp; omega), aK.eq_1]
    rw [if_pos]
    simp only [Nat.add_zero, Nat.cast_zero, Int.fdiv_zero]
    omega

example : aK [3, 2] 2 (-1) = countSpec [2, 3] 2 (-1) := aK_two 2 3 2 (-1) (by decide)
example : aK [3, 2] 2 5 = 7 := by rw [aK_two 2 3 2 5 (by decide)]; decide +kernel

/-- the two-rank closed form with Go's *truncating* division `/` for the upper limit, as
`makeUmemo` had it before the repair recorded as F2 in DESIGN.md -/
def aK2T (t1 t0 n1 : Nat) (twoU : Int) : Nat :=
  let lo : Int := max 0 ((n1 : Int) - t0)
  let num : Int := twoU - (n1 : Int) * ((t0 : Int) - n1)
  let hi : Int := Int.tdiv num ((t0 + t1 : Nat) : Int)
  if hi < lo then 0 else
    ((List.range (hi - lo + 1).toNat).map fun i =>
      let r2 := lo.toNat + i
      if r2 > n1 then 0 else choose t0 (n1 - r2) * choose t1 r2).foldl (· + ·) 0

/-- **Floor is essential**: with truncating division the closed form is wrong already for
`t = [1,1]`, `n1 = 1`, `twoU = -1` (it returns 1, the true count is 0). -/
theorem aK2T_ne_countSpec : aK2T 1 1 1 (-1) ≠ countSpec [1, 1] 1 (-1) := by decide

/-! ## main theorem -/

/-- The recursion returns the count except at `ts = [0, 0]`, `n1 = 0`, `twoU < 0`, where the
two-rank form divides by the empty pool size.  The recursion only descends to arguments within
`[twoUmin, twoUmax]`, and `twoUmin 0 [0, 0] = 0`, so that point is never reached from above. -/
lemma aK_eq_of (ts : List Nat) (hl : 2 ≤ ts.length) : ∀ (n1 : Nat) (twoU : Int),
    ts ≠ [0, 0] ∨ n1 ≠ 0 ∨ 0 ≤ twoU → aK ts n1 twoU = countSpec ts.reverse n1 twoU := by
  induction ts with
  | nil => simp at hl
  | cons tk rest ih =>
    intro n1 twoU h
    by_cases hlen : 2 ≤ rest.length
    · refine aK_step tk rest hlen (fun n1' twoU' hin => ih hlen n1' twoU' ?_) n1 twoU
      by_cases hr : rest = [0, 0]
      · subst hr
        by_cases hn : n1' = 0
        · subst hn
          exact Or.inr (Or.inr hin)
        · exact Or.inr (Or.inl hn)
      · exact Or.inl hr
    · have h1 : rest.length = 1 := by simp only [List.length_cons] at hl; omega
      obtain ⟨t0, rfl⟩ := List.length_eq_one_iff.1 h1
      by_cases hD : 0 < t0 + tk
      · exact aK_two t0 tk n1 twoU hD
      · have e0 : t0 = 0 := by omega
        have ek : tk = 0 := by omega
        subst e0; subst ek
        exact aK_two_zero n1 twoU (h.resolve_left fun h' => h' rfl)

/-- **Main theorem**: for every tie vector `t` with at least two groups other than the degenerate
`[0,0]`, every `n1` and every integer `twoU` (negative allowed), the Cheung–Klotz recursion `aK`
(called on the reversed tie vector, as the Go code does) returns the number of size-`n1` labelings
with `2U ≤ twoU`. -/
theorem aK_eq_countSpec_general (t : List Nat) (ht : 2 ≤ t.length) (hne : t ≠ [0, 0])
    (n1 : Nat) (twoU : Int) : aK t.reverse n1 twoU = countSpec t n1 twoU := by
  have := aK_eq_of t.reverse (by rwa [List.length_reverse]) n1 twoU
    (Or.inl fun h => hne (by simpa using congrArg List.reverse h))
  rwa [List.reverse_reverse] at this

example : aK [2, 0, 3, 1].reverse 3 6 = countSpec [2, 0, 3, 1] 3 6 :=
  aK_eq_countSpec_general _ (by decide) (by decide) _ _
example : ([2, 0, 3, 1] : List Nat) ≠ [0, 0] := by decide +kernel
example : countSpec [2, 0, 3, 1] 3 6 = 4 := by decide +kernel

/-- the excluded input really is a mismatch: for `t = [0,0]`, `n1 = 0`, `twoU = -1` the recursion
returns 1 while the count is 0 (division by the empty pool size). -/
theorem aK_zero_zero_mismatch : aK [0, 0].reverse 0 (-1) ≠ countSpec [0, 0] 0 (-1) := by
  rw [show ([0, 0] : List Nat).reverse = [0, 0] from rfl, aK.eq_1]; decide

/-- **Main theorem, for tie vectors as the code meets them**: at least two groups, all of positive
size, `n1 ≤ N` (the bound on `n1` plays no role in the proof). -/
theorem aK_eq_countSpec (t : List Nat) (ht : 2 ≤ t.length) (hpos : ∀ x ∈ t, 0 < x)
    (n1 : Nat) (_hn : n1 ≤ sumList t) (twoU : Int) :
    aK t.reverse n1 twoU = countSpec t n1 twoU := by
  apply aK_eq_countSpec_general t ht
  intro h
  have := hpos 0 (by rw [h]; simp)
  omega

example : aK [2, 1, 3].reverse 3 7 = countSpec [2, 1, 3] 3 7 :=
  aK_eq_countSpec _ (by decide) (by decide) _ (by decide) _
example : countSpec [2, 1, 3] 3 7 = 10 := by decide +kernel

end MV.UDist
