import Mathlib.Tactic
import MV.Model.UDist
/-!
# C02 — exact null distribution of the Mann-Whitney U statistic (`MV.UDist`)

Property theorems (keyword `theorem`) about the executable model `MV/Model/UDist.lean`:

* U1 `choose_eq_nat`, `chooseFast_eq`
* U2 `fwdDP_coeff`, `fwdDP_prefix`  (forward DP = brute-force count over allocations)
* U3 `fwdDP_total`, `fwdDP_prefix_top`, `cdf_range`, `cdf_mono`, `cdf_eq_countSpec`, `pmfAt_eq_countEq`
* U4 `countEq_mirror`
* U5 `mwPoly_coeff`, `cMW_eq_count`, `cdfUntiedMW_eq_cdf`

Everything else is a helper (`lemma` / `def`).

Method: `cnt p j v` is the number of labelings of the groups `p` with `j` items in sample 1 and
`2U = v`; `cnt_snoc` peels the last group.  The DP table after the groups `p` holds `cnt p`
(`dpRun_spec`), and the Mann-Whitney recurrence is `cnt_snoc` for a group of size one.
-/
namespace MV.UDist
open Finset

/-! ## U1 binomials -/

/-- The model's Pascal-triangle `choose` is Mathlib's binomial coefficient. -/
theorem choose_eq_nat (n k : Nat) : choose n k = Nat.choose n k := by
  induction n generalizing k with
  | zero => cases k <;> simp [choose]
  | succ n ih => cases k with
    | zero => simp [choose]
    | succ k => simp [choose, ih, Nat.choose_succ_succ]

example : choose 6 2 = Nat.choose 6 2 := choose_eq_nat 6 2

lemma foldl_choose (n k : Nat) (hk : k ≤ n) :
    (List.range k).foldl (fun acc i => acc * (n - i) / (i + 1)) 1 = Nat.choose n k := by
  induction k with
  | zero => simp
  | succ k ih =>
    rw [List.range_succ, List.foldl_append, ih (by omega)]
    simp only [List.foldl_cons, List.foldl_nil]
    rw [← Nat.choose_succ_right_eq]
    exact Nat.mul_div_cancel _ (by omega)

/-- The multiplicative binomial used for execution equals the Pascal-triangle `choose`. -/
theorem chooseFast_eq (n k : Nat) : chooseFast n k = choose n k := by
  rw [choose_eq_nat]
  unfold chooseFast
  split_ifs with h1 h2
  · exact (Nat.choose_eq_zero_of_lt h1).symm
  · simp only; rw [foldl_choose n (n - k) (by omega)]
    exact Nat.choose_symm (by omega)
  · simp only; exact foldl_choose n k (by omega)

example : chooseFast 10 7 = 120 ∧ choose 10 7 = 120 ∧ Nat.choose 10 7 = 120 := by
  refine ⟨?_, ?_, ?_⟩
  · rw [chooseFast_eq, choose_eq_nat]; decide +kernel
  · rw [choose_eq_nat]; decide +kernel
  · decide

/-! ## length of the Cheung–Klotz coefficient list -/

lemma aCoef_go_length (p q : Nat) (l : List Nat) : (aCoef.go p q l).length = l.length := by
  induction l generalizing p q with
  | nil => rfl
  | cons x l ih => simp [aCoef.go, ih]

lemma aCoef_length (t : List Nat) : (aCoef t).length = t.length := by
  cases t with
  | nil => rfl
  | cons x t => simp [aCoef, aCoef_go_length]

/-! ## loops -/

lemma forIn_id_foldl {α β : Type} (l : List α) (init : β) (f : α → β → Id (ForInStep β)) (g : β → α → β)
    (h : ∀ a b, f a b = pure (ForInStep.yield (g b a))) :
    forIn l init f = (pure (l.foldl g init) : Id β) := by
  induction l generalizing init with
  | nil => simp
  | cons a l ih => simp [h, ih]

lemma foldl_range'_inv {β : Type} (P : Nat → β → Prop) (g : β → Nat → β) (s n : Nat) (init : β)
    (h0 : P s init) (hstep : ∀ k b, s ≤ k → k < s + n → P k b → P (k + 1) (g b k)) :
    P (s + n) ((List.range' s n).foldl g init) := by
  induction n with
  | zero => simpa using h0
  | succ n ih =>
    rw [List.range'_concat, List.foldl_append]
    simp only [List.foldl_cons, List.foldl_nil]
    have := hstep (s + n) _ (by omega) (by omega) (ih (fun k b h1 h2 => hstep k b h1 (by omega)))
    simpa [Nat.add_assoc] using this

/-- a fold over `range' 0 n` whose `k`-th step adds `c k x` to every observed value `m · x` (and
keeps `inv`) adds `∑ k < n, c k x` -/
lemma foldl_range'_sum {β X : Type} (inv : β → Prop) (m : β → X → Nat) (c : Nat → X → Nat)
    (g : β → Nat → β) (n : Nat) (init : β) (h0 : inv init)
    (hstep : ∀ k b, k < n → inv b → inv (g b k) ∧ ∀ x, m (g b k) x = m b x + c k x) :
    inv ((List.range' 0 n).foldl g init) ∧
      ∀ x, m ((List.range' 0 n).foldl g init) x = m init x + ∑ k ∈ range n, c k x := by
  have key := foldl_range'_inv
    (fun k b => inv b ∧ ∀ x, m b x = m init x + ∑ i ∈ range k, c i x) g 0 n init
    ⟨h0, fun x => by simp⟩ ?_
  · simpa using key
  · rintro k b - hk ⟨hb1, hb2⟩
    obtain ⟨h1, h2⟩ := hstep k b (by omega) hb1
    exact ⟨h1, fun x => by rw [h2, hb2, sum_range_succ, add_assoc]⟩

/-- one round of the loop of `polyAddShift` -/
def polyAddShiftBody (p : Poly) (shift c : Nat) (a : Poly) (i : Nat) : Poly :=
  if p.getD i 0 = 0 then a else a.setIfInBounds (i + shift) (a.getD (i + shift) 0 + c * p.getD i 0)

lemma polyAddShift_eq (acc p : Poly) (shift c : Nat) :
    polyAddShift acc p shift c =
      (List.range' 0 p.size).foldl (polyAddShiftBody p shift c)
        (if acc.size < p.size + shift then acc ++ Array.replicate (p.size + shift - acc.size) 0 else acc) := by
  unfold polyAddShift
  simp only [Id.run, Array.getD_eq_getD_getElem?, bne_iff_ne, ne_eq, ite_not,
    Std.Legacy.Range.forIn_eq_forIn_range', Std.Legacy.Range.size, tsub_zero, add_tsub_cancel_right,
    Nat.div_one, bind_pure]
  split_ifs with h
  all_goals
    rw [forIn_id_foldl _ _ _ (polyAddShiftBody p shift c)]
    · rfl
    · intro a b; unfold polyAddShiftBody; simp; split <;> rfl

lemma getD_append_zeros (acc : Poly) (n x : Nat) :
    (acc ++ Array.replicate n 0).getD x 0 = acc.getD x 0 := by
  simp only [Array.getD_eq_getD_getElem?, Array.getElem?_append, Array.getElem?_replicate]
  split_ifs <;> simp_all

lemma getD_setIfInBounds (a : Poly) (i x v : Nat) (hi : i < a.size) :
    (a.setIfInBounds i v).getD x 0 = if x = i then v else a.getD x 0 := by
  simp only [Array.getD_eq_getD_getElem?, Array.getElem?_setIfInBounds]
  by_cases h : x = i
  · subst h; simp [hi]
  · have : ¬ i = x := fun h' => h h'.symm
    simp [h, this]

lemma getD_of_size_le (p : Poly) (i : Nat) (h : p.size ≤ i) : p.getD i 0 = 0 := by
  rw [Array.getD_eq_getD_getElem?, Array.getElem?_eq_none h]; rfl

/-- one round of the loop adds `c * p[i]` at position `i + shift` (also when the test skips a zero) -/
lemma polyAddShiftBody_spec (p : Poly) (shift c : Nat) (a : Poly) (i : Nat) (hi : i + shift < a.size) :
    (polyAddShiftBody p shift c a i).size = a.size ∧
    ∀ x, (polyAddShiftBody p shift c a i).getD x 0 = a.getD x 0 + if x = i + shift then c * p.getD i 0 else 0 := by
  unfold polyAddShiftBody
  by_cases hz : p.getD i 0 = 0
  · rw [if_pos hz]
    exact ⟨rfl, fun x => by rw [hz, Nat.mul_zero, ite_self, Nat.add_zero]⟩
  · rw [if_neg hz]
    refine ⟨Array.size_setIfInBounds, fun x => ?_⟩
    rw [getD_setIfInBounds _ _ _ _ hi]
    by_cases hx : x = i + shift
    · rw [if_pos hx, if_pos hx, hx]
    · rw [if_neg hx, if_neg hx, Nat.add_zero]

lemma sum_ite_add_eq (n shift x : Nat) (g : Nat → Nat) (hg : ∀ i, n ≤ i → g i = 0) :
    ∑ i ∈ range n, (if x = i + shift then g i else 0) = if shift ≤ x then g (x - shift) else 0 := by
  split_ifs with h
  · have e : ∀ i, (x = i + shift) ↔ (x - shift = i) := fun i => by omega
    simp only [e, sum_ite_eq, mem_range]
    split_ifs with hx
    · rfl
    · exact (hg _ (by omega)).symm
  · exact sum_eq_zero fun i _ => if_neg (by omega)

/-- `polyAddShift acc p shift c` is `acc + c · q^shift · p`, coefficient by coefficient -/
lemma polyAddShift_getD (acc p : Poly) (shift c x : Nat) :
    (polyAddShift acc p shift c).getD x 0
      = acc.getD x 0 + (if shift ≤ x then c * p.getD (x - shift) 0 else 0) := by
  rw [polyAddShift_eq]
  set a0 := (if acc.size < p.size + shift then acc ++ Array.replicate (p.size + shift - acc.size) 0 else acc) with ha0
  have hsz : p.size + shift ≤ a0.size := by
    rw [ha0]; split_ifs with h
    · simp; omega
    · omega
  have hget : ∀ x, a0.getD x 0 = acc.getD x 0 := by
    intro x; rw [ha0]; split_ifs with h
    · exact getD_append_zeros _ _ _
    · rfl
  obtain ⟨h1, h2⟩ := foldl_range'_sum (fun a : Poly => p.size + shift ≤ a.size)
    (fun a x => a.getD x 0) (fun i x => if x = i + shift then c * p.getD i 0 else 0)
    (polyAddShiftBody p shift c) p.size a0 hsz fun k b hk hb => by
      obtain ⟨e1, e2⟩ := polyAddShiftBody_spec p shift c b k (by omega)
      exact ⟨by rw [e1]; exact hb, e2⟩
  rw [h2, hget, sum_ite_add_eq _ _ _ _ fun i hi => by rw [getD_of_size_le p i hi, Nat.mul_zero]]

def coefT (tbl : Array Poly) (j v : Nat) : Nat := (tbl.getD j #[]).getD v 0

/-- the growth of `2U` when `r` of the `t` items of a group go to sample 1, `below - j` items of
sample 2 lying in earlier groups -/
def shiftOf (t below j r : Nat) : Nat := r * (2 * (below - j) + (t - r))

/-- one round of the inner loop of `dpStep` (`outerBody`: of the outer loop) -/
def innerBody (n1 : Nat) (tbl : Array Poly) (t below j : Nat) (out : Array Poly) (r : Nat) : Array Poly :=
  if j + r ≤ n1 then
    out.setIfInBounds (j + r)
      (polyAddShift (out.getD (j + r) #[]) (tbl.getD j #[]) (shiftOf t below j r) (chooseFast t r))
  else out

def outerBody (n1 : Nat) (tbl : Array Poly) (t below : Nat) (out : Array Poly) (j : Nat) : Array Poly :=
  if (tbl.getD j #[]).size = 0 then out
  else (List.range' 0 (t + 1)).foldl (innerBody n1 tbl t below j) out

lemma dpStep_eq (n1 : Nat) (tbl : Array Poly) (t below : Nat) :
    dpStep n1 tbl t below =
      (List.range' 0 (n1 + 1)).foldl (outerBody n1 tbl t below) (Array.replicate (n1 + 1) #[]) := by
  unfold dpStep
  simp only [Id.run, Array.getD_eq_getD_getElem?, bne_iff_ne, ne_eq, Array.size_eq_zero_iff,
    Std.Legacy.Range.forIn_eq_forIn_range', Std.Legacy.Range.size, tsub_zero, add_tsub_cancel_right,
    Nat.div_one, bind_pure_comp, ite_not, bind_pure]
  rw [forIn_id_foldl _ _ _ (outerBody n1 tbl t below)]
  · rfl
  · intro j out
    unfold outerBody
    simp
    split_ifs with h
    · rfl
    · rw [forIn_id_foldl _ _ _ (innerBody n1 tbl t below j)]
      · rfl
      · intro r o; unfold innerBody; simp; split <;> rfl

/-- contribution of the transition (j, r) to the coefficient (j', v) -/
def contrib (n1 t below : Nat) (f : Nat → Nat → Nat) (j r j' v : Nat) : Nat :=
  if j + r ≤ n1 ∧ j + r = j' ∧ shiftOf t below j r ≤ v then choose t r * f j (v - shiftOf t below j r) else 0

lemma coefT_setIfInBounds (out : Array Poly) (i : Nat) (q : Poly) (hi : i < out.size) (j' v : Nat) :
    coefT (out.setIfInBounds i q) j' v = if j' = i then q.getD v 0 else coefT out j' v := by
  unfold coefT
  simp only [Array.getD_eq_getD_getElem?, Array.getElem?_setIfInBounds]
  by_cases h : j' = i
  · subst h; simp [hi]
  · have : ¬ i = j' := fun h' => h h'.symm
    simp [h, this]

lemma innerBody_spec (n1 : Nat) (tbl : Array Poly) (t below j : Nat) (o : Array Poly) (r : Nat)
    (ho : o.size = n1 + 1) :
    (innerBody n1 tbl t below j o r).size = n1 + 1 ∧
      ∀ x : Nat × Nat, coefT (innerBody n1 tbl t below j o r) x.1 x.2
        = coefT o x.1 x.2 + contrib n1 t below (coefT tbl) j r x.1 x.2 := by
  unfold innerBody
  split_ifs with hle
  · refine ⟨by simpa using ho, fun ⟨j', v⟩ => ?_⟩
    rw [coefT_setIfInBounds _ _ _ (by omega)]
    by_cases hj : j' = j + r
    · subst hj
      rw [if_pos rfl, polyAddShift_getD, chooseFast_eq]
      exact congrArg (_ + ·) (if_congr ⟨fun h => ⟨hle, rfl, h⟩, fun h => h.2.2⟩ rfl rfl)
    · rw [if_neg hj, contrib, if_neg fun h => hj h.2.1.symm, Nat.add_zero]
  · exact ⟨ho, fun x => by rw [contrib, if_neg fun h => hle h.1, Nat.add_zero]⟩

lemma outerBody_spec (n1 : Nat) (tbl : Array Poly) (t below : Nat) (o : Array Poly) (j : Nat)
    (ho : o.size = n1 + 1) :
    (outerBody n1 tbl t below o j).size = n1 + 1 ∧
      ∀ x : Nat × Nat, coefT (outerBody n1 tbl t below o j) x.1 x.2
        = coefT o x.1 x.2 + ∑ r ∈ range (t + 1), contrib n1 t below (coefT tbl) j r x.1 x.2 := by
  unfold outerBody
  split_ifs with hz
  · refine ⟨ho, fun x => ?_⟩
    rw [sum_eq_zero, Nat.add_zero]
    intro r _
    unfold contrib
    split_ifs
    · rw [coefT, Array.eq_empty_of_size_eq_zero hz]
      exact Nat.mul_zero _
    · rfl
  · exact foldl_range'_sum (fun o : Array Poly => o.size = n1 + 1)
      (fun o (x : Nat × Nat) => coefT o x.1 x.2)
      (fun r x => contrib n1 t below (coefT tbl) j r x.1 x.2) (innerBody n1 tbl t below j) (t + 1) o ho
      fun r o _ ho => innerBody_spec n1 tbl t below j o r ho

/-- only the transition from `j = j' - r` reaches `j'` -/
lemma sum_contrib (n1 t below : Nat) (f : Nat → Nat → Nat) (j' v : Nat) (hj : j' ≤ n1) :
    ∑ j ∈ range (n1 + 1), ∑ r ∈ range (t + 1), contrib n1 t below f j r j' v = ∑ r ∈ range (t + 1),
      if r ≤ j' ∧ shiftOf t below (j' - r) r ≤ v then choose t r * f (j' - r) (v - shiftOf t below (j' - r) r) else 0 := by
  rw [sum_comm]
  refine sum_congr rfl fun r _ => ?_
  by_cases hr : r ≤ j'
  · rw [sum_eq_single (j' - r)]
    · exact if_congr ⟨fun h => ⟨hr, h.2.2⟩, fun h => ⟨by omega, by omega, h.2⟩⟩ rfl rfl
    · exact fun j _ hne => if_neg fun h => hne (by omega)
    · exact fun hnot => absurd (mem_range.2 (by omega)) hnot
  · rw [if_neg fun h => hr h.1]
    exact sum_eq_zero fun j _ => if_neg fun h => hr (by omega)

/-- one DP step: entry `(j', v)` collects, for every `r`, `C(t, r)` times the entry `(j' - r, v - shift)` -/
lemma dpStep_spec (n1 : Nat) (tbl : Array Poly) (t below : Nat) :
    (dpStep n1 tbl t below).size = n1 + 1 ∧
    ∀ j' v, j' ≤ n1 → coefT (dpStep n1 tbl t below) j' v = ∑ r ∈ range (t + 1),
      if r ≤ j' ∧ shiftOf t below (j' - r) r ≤ v
      then choose t r * coefT tbl (j' - r) (v - shiftOf t below (j' - r) r) else 0 := by
  rw [dpStep_eq]
  obtain ⟨h1, h2⟩ := foldl_range'_sum (fun o : Array Poly => o.size = n1 + 1)
    (fun o (x : Nat × Nat) => coefT o x.1 x.2)
    (fun j x => ∑ r ∈ range (t + 1), contrib n1 t below (coefT tbl) j r x.1 x.2)
    (outerBody n1 tbl t below) (n1 + 1) (Array.replicate (n1 + 1) #[]) (by simp)
    fun j o _ ho => outerBody_spec n1 tbl t below o j ho
  refine ⟨h1, fun j' v hj => ?_⟩
  have h0 : coefT (Array.replicate (n1 + 1) #[]) j' v = 0 := by
    unfold coefT
    simp only [Array.getD_eq_getD_getElem?, Array.getElem?_replicate]
    split_ifs <;> rfl
  rw [h2 (j', v), h0, Nat.zero_add, sum_contrib _ _ _ _ _ _ hj]

lemma coefT_init (n1 j v : Nat) :
    coefT ((Array.replicate (n1 + 1) #[]).setIfInBounds 0 #[1]) j v = if j = 0 ∧ v = 0 then 1 else 0 := by
  rw [coefT_setIfInBounds _ _ _ (by simp)]
  by_cases hj : j = 0
  · subst hj
    simp only [if_true, true_and]
    by_cases hv : v = 0
    · subst hv; rfl
    · rw [if_neg hv]
      simp only [Array.getD_eq_getD_getElem?]
      rw [Array.getElem?_eq_none (by simp; omega)]; rfl
  · rw [if_neg hj, if_neg (by tauto)]
    unfold coefT
    simp only [Array.getD_eq_getD_getElem?, Array.getElem?_replicate]
    split_ifs <;> rfl

/-! ## sums over allocation vectors -/

lemma sumList_eq (l : List Nat) : sumList l = l.sum :=
  List.sum_eq_foldl.symm

/-- the model's filtered sums (`sumList`, Boolean test `p`) as a sum of `if`s with the test as a
proposition `q` -/
lemma sumList_filter_map {α : Type} (L : List α) (p : α → Bool) (q : α → Prop) [DecidablePred q]
    (w : α → Nat) (h : ∀ r, p r = true ↔ q r) :
    sumList ((L.filter p).map w) = (L.map fun r => if q r then w r else 0).sum := by
  rw [sumList_eq]
  induction L with
  | nil => rfl
  | cons a L ih =>
    rw [List.filter_cons]
    by_cases hp : p a = true
    · rw [if_pos hp, List.map_cons, List.sum_cons, List.map_cons, List.sum_cons, if_pos ((h a).1 hp), ih]
    · rw [if_neg hp, List.map_cons, List.sum_cons, if_neg fun hq => hp ((h a).2 hq), Nat.zero_add, ih]

def asum (ts : List Nat) (g : List Nat → Nat) : Nat := ((allocs ts).map g).sum

lemma asum_nil (g : List Nat → Nat) : asum [] g = g [] := by simp [asum, allocs]

lemma sum_range_list {M : Type} [AddCommMonoid M] (f : Nat → M) (n : Nat) :
    ((List.range n).map f).sum = ∑ i ∈ range n, f i := rfl

lemma sum_flatMap {α β M : Type} [AddCommMonoid M] (L : List α) (F : α → List β) (g : β → M) :
    ((L.flatMap F).map g).sum = (L.map fun a => ((F a).map g).sum).sum := by
  rw [List.map_flatMap, List.flatMap_def, List.sum_flatten, List.map_map]
  rfl

/-- a sum over the allocations of `t :: ts` runs first over the head component -/
lemma sum_allocs_cons {M : Type} [AddCommMonoid M] (t : Nat) (ts : List Nat) (g : List Nat → M) :
    ((allocs (t :: ts)).map g).sum
      = ∑ r ∈ range (t + 1), ((allocs ts).map fun rs => g (r :: rs)).sum := by
  rw [allocs, sum_flatMap, sum_range_list]
  refine sum_congr rfl fun r _ => ?_
  rw [List.map_map]
  rfl

lemma asum_cons (t : Nat) (ts : List Nat) (g : List Nat → Nat) :
    asum (t :: ts) g = ∑ r ∈ range (t + 1), asum ts (fun rs => g (r :: rs)) :=
  sum_allocs_cons t ts g

lemma asum_finset_sum (ts : List Nat) (s : Finset Nat) (h : Nat → List Nat → Nat) :
    asum ts (fun rs => ∑ r ∈ s, h r rs) = ∑ r ∈ s, asum ts (h r) := by
  unfold asum
  induction (allocs ts) with
  | nil => simp
  | cons a L ih => simp [ih, sum_add_distrib]

lemma asum_congr (ts : List Nat) (g g' : List Nat → Nat) (h : ∀ rs ∈ allocs ts, g rs = g' rs) :
    asum ts g = asum ts g' :=
  congrArg List.sum (List.map_congr_left h)

lemma countEq_eq_asum (t : List Nat) (n1 : Nat) (k : Int) :
    countEq t n1 k = asum t (fun r => if r.sum = n1 ∧ ((twoUof t r 0 : Nat) : Int) = k then weight t r else 0) :=
  sumList_filter_map _ _ _ _ fun r => by simp [sumList_eq]

lemma countSpec_eq_asum (t : List Nat) (n1 : Nat) (k : Int) :
    countSpec t n1 k = asum t (fun r => if r.sum = n1 ∧ ((twoUof t r 0 : Nat) : Int) ≤ k then weight t r else 0) :=
  sumList_filter_map _ _ _ _ fun r => by simp [sumList_eq]

lemma asum_mul_left (ts : List Nat) (c : Nat) (g : List Nat → Nat) :
    asum ts (fun rs => c * g rs) = c * asum ts g :=
  List.sum_map_mul_left ..

lemma asum_mul_right (ts : List Nat) (g : List Nat → Nat) (c : Nat) :
    asum ts (fun rs => g rs * c) = asum ts g * c :=
  List.sum_map_mul_right ..

lemma asum_zero (ts : List Nat) : asum ts (fun _ => 0) = 0 := by
  simp [asum]

lemma asum_eq_zero (ts : List Nat) (g : List Nat → Nat) (h : ∀ rs ∈ allocs ts, g rs = 0) :
    asum ts g = 0 :=
  (asum_congr ts g _ h).trans (asum_zero ts)

/-- `2U` is never negative -/
lemma countSpec_neg (t : List Nat) (n1 : Nat) (k : Int) (hk : k < 0) : countSpec t n1 k = 0 := by
  rw [countSpec_eq_asum]
  exact asum_eq_zero _ _ fun r _ => if_neg fun h => by omega

lemma countEq_neg (t : List Nat) (n1 : Nat) (k : Int) (hk : k < 0) : countEq t n1 k = 0 := by
  rw [countEq_eq_asum]
  exact asum_eq_zero _ _ fun r _ => if_neg fun h => by omega

lemma asum_snoc (ts : List Nat) (t : Nat) (g : List Nat → Nat) :
    asum (ts ++ [t]) g = asum ts (fun rs => ∑ r ∈ range (t + 1), g (rs ++ [r])) := by
  induction ts generalizing g with
  | nil =>
    rw [List.nil_append, asum_cons, asum_nil]
    simp only [asum_nil, List.nil_append]
  | cons t0 ts ih =>
    rw [List.cons_append, asum_cons, asum_cons]
    apply sum_congr rfl
    intro r0 _
    rw [ih]
    rfl

lemma sum_range_trunc (f : Nat → Nat) (t n : Nat) (hf : ∀ r, t < r → f r = 0) :
    ∑ r ∈ range (t + 1), (if r ≤ n then f r else 0) = ∑ r ∈ range (n + 1), f r := by
  have h2 : ∑ r ∈ range (n + 1), f r = ∑ r ∈ range (n + 1), (if r ≤ t then f r else 0) := by
    apply sum_congr rfl
    intro r _
    by_cases h : r ≤ t
    · simp [h]
    · simp [h, hf r (by omega)]
  rw [h2, ← sum_filter, ← sum_filter]
  congr 1
  ext r; simp; omega

/-- Vandermonde: the weights of all allocations with `Σ r = n` add up to `choose (Σ t) n`. -/
lemma asum_weight (ts : List Nat) (n : Nat) :
    asum ts (fun r => if r.sum = n then weight ts r else 0) = Nat.choose ts.sum n := by
  induction ts generalizing n with
  | nil =>
    rw [asum_nil]
    cases n <;> simp [weight]
  | cons t ts ih =>
    rw [asum_cons]
    have : ∀ r ∈ range (t + 1),
        asum ts (fun rs => if (r :: rs).sum = n then weight (t :: ts) (r :: rs) else 0)
          = if r ≤ n then Nat.choose t r * Nat.choose ts.sum (n - r) else 0 := by
      intro r _
      by_cases hr : r ≤ n
      · rw [if_pos hr, ← ih (n - r), ← asum_mul_left]
        apply asum_congr
        intro rs _
        simp only [List.sum_cons, weight, choose_eq_nat]
        by_cases h : rs.sum = n - r
        · have : r + rs.sum = n := by omega
          rw [if_pos h, if_pos this]
        · have : ¬ r + rs.sum = n := by omega
          rw [if_neg h, if_neg this, Nat.mul_zero]
      · rw [if_neg hr]
        refine asum_eq_zero _ _ fun rs _ => if_neg ?_
        rw [List.sum_cons]
        omega
    rw [sum_congr rfl this]
    rw [sum_range_trunc (fun r => Nat.choose t r * Nat.choose ts.sum (n - r)) t n
      (fun r hr => by simp [Nat.choose_eq_zero_of_lt hr])]
    rw [List.sum_cons, Nat.add_choose_eq, Finset.Nat.sum_antidiagonal_eq_sum_range_succ_mk]

lemma mem_allocs_cons (t : Nat) (ts : List Nat) (x : List Nat) :
    x ∈ allocs (t :: ts) ↔ ∃ r rs, r ≤ t ∧ rs ∈ allocs ts ∧ x = r :: rs := by
  simp only [allocs, List.mem_flatMap, List.mem_range, List.mem_map]
  constructor
  · rintro ⟨r, hr, rs, hrs, rfl⟩; exact ⟨r, rs, by omega, hrs, rfl⟩
  · rintro ⟨r, rs, hr, hrs, rfl⟩; exact ⟨r, by omega, rs, hrs, rfl⟩

def comp : List Nat → List Nat → List Nat
  | t :: ts, r :: rs => (t - r) :: comp ts rs
  | _, _ => []

/-- An allocation and its complement split the pool, have the same weight, and their `2U` values
add up to twice the number of pairs (counted with `b`, `b'` further items below). -/
lemma comp_sum_weight_twoUof (ts rs : List Nat) (h : rs ∈ allocs ts) :
    (comp ts rs).sum + rs.sum = ts.sum ∧ weight ts (comp ts rs) = weight ts rs ∧
    ∀ b b', twoUof ts rs b + twoUof ts (comp ts rs) b'
      = 2 * b * rs.sum + 2 * b' * (comp ts rs).sum + 2 * rs.sum * (comp ts rs).sum := by
  induction ts generalizing rs with
  | nil =>
    simp [allocs] at h; subst h; simp [comp, weight, twoUof]
  | cons t ts ih =>
    obtain ⟨r, rs', hr, hrs, rfl⟩ := (mem_allocs_cons t ts rs).1 h
    obtain ⟨h1, h2, h3⟩ := ih rs' hrs
    simp only [comp, List.sum_cons, weight, twoUof]
    refine ⟨by omega, ?_, fun b b' => ?_⟩
    · rw [h2, choose_eq_nat, choose_eq_nat, Nat.choose_symm hr]
    · rw [Nat.sub_sub_self hr, Nat.add_add_add_comm, h3]
      ring

lemma twoUof_bound (ts : List Nat) (rs : List Nat) (b : Nat) (h : rs ∈ allocs ts) :
    rs.sum ≤ ts.sum ∧ twoUof ts rs b ≤ 2 * rs.sum * (b + (ts.sum - rs.sum)) := by
  obtain ⟨h1, -, h3⟩ := comp_sum_weight_twoUof ts rs h
  refine ⟨by omega, ?_⟩
  rw [← h1, Nat.add_sub_cancel]
  calc twoUof ts rs b ≤ twoUof ts rs b + twoUof ts (comp ts rs) 0 := Nat.le_add_right _ _
    _ = 2 * rs.sum * (b + (comp ts rs).sum) := by rw [h3]; ring

lemma weight_twoUof_snoc (ts : List Nat) (t r : Nat) (rs : List Nat) (h : rs ∈ allocs ts) :
    weight (ts ++ [t]) (rs ++ [r]) = weight ts rs * choose t r ∧
    ∀ b, twoUof (ts ++ [t]) (rs ++ [r]) b
      = twoUof ts rs b + r * (2 * (b + (ts.sum - rs.sum)) + (t - r)) := by
  induction ts generalizing rs with
  | nil =>
    simp [allocs] at h; subst h; simp [weight, twoUof]
  | cons t0 ts ih =>
    obtain ⟨r0, rs', hr, hrs, rfl⟩ := (mem_allocs_cons t0 ts rs).1 h
    obtain ⟨h1, h2⟩ := ih rs' hrs
    have hb := (twoUof_bound ts rs' 0 hrs).1
    simp only [List.cons_append, weight, twoUof, List.sum_cons]
    refine ⟨by rw [h1]; ring, fun b => ?_⟩
    rw [h2]
    have e : t0 + ts.sum - (r0 + rs'.sum) = (t0 - r0) + (ts.sum - rs'.sum) := by omega
    rw [e]; ring

/-! ## labelings by sample-1 size and `2U` -/

/-- number of labelings of the groups `p` with `j` items in sample 1 and `2U = v` -/
def cnt (p : List Nat) (j v : Nat) : Nat :=
  asum p fun r => if r.sum = j ∧ twoUof p r 0 = v then weight p r else 0

lemma countEq_eq_cnt (t : List Nat) (n1 v : Nat) : countEq t n1 (v : Int) = cnt t n1 v := by
  rw [countEq_eq_asum]
  simp only [Nat.cast_inj]
  rfl

lemma cnt_nil (j v : Nat) : cnt [] j v = if j = 0 ∧ v = 0 then 1 else 0 := by
  unfold cnt
  rw [asum_nil]
  exact if_congr ⟨fun h => ⟨h.1.symm, h.2.symm⟩, fun h => ⟨h.1.symm, h.2.symm⟩⟩ rfl rfl

lemma cnt_eq_zero (p : List Nat) (j v : Nat) (h : p.sum < j) : cnt p j v = 0 := by
  refine asum_eq_zero _ _ fun r hr => if_neg fun hc => ?_
  have := (twoUof_bound p r 0 hr).1
  omega

/-- the test `s + r = j ∧ U + sh = v` solved for `s` and `U`; `sh'` is `sh` at `s = j - r` -/
lemma ite_add_eq_iff_sub (s r j U sh sh' v w c : Nat) (hsh : s + r = j → sh = sh') :
    (if s + r = j ∧ U + sh = v then w * c else 0)
      = if r ≤ j ∧ sh' ≤ v then c * (if s = j - r ∧ U = v - sh' then w else 0) else 0 := by
  by_cases hs : s + r = j
  · rw [← hsh hs]
    by_cases hv : U + sh = v
    · rw [if_pos ⟨hs, hv⟩, if_pos ⟨by omega, by omega⟩, if_pos ⟨by omega, by omega⟩, Nat.mul_comm]
    · rw [if_neg fun h => hv h.2]
      by_cases h1 : r ≤ j ∧ sh ≤ v
      · rw [if_pos h1, if_neg fun h => hv (by omega), Nat.mul_zero]
      · rw [if_neg h1]
  · rw [if_neg fun h => hs h.1]
    by_cases h1 : r ≤ j ∧ sh' ≤ v
    · rw [if_pos h1, if_neg fun h => hs (by omega), Nat.mul_zero]
    · rw [if_neg h1]

/-- **Peeling the last group.** If `r` of its `t` items go to sample 1, `2U` grows by
`r (2 b + (t - r))`, `b` being the number of sample-2 items in the groups before.  This is the
transition of the forward DP and, for `t = 1`, the Mann-Whitney recurrence. -/
lemma cnt_snoc (p : List Nat) (t j v : Nat) :
    cnt (p ++ [t]) j v = ∑ r ∈ range (t + 1),
      if r ≤ j ∧ shiftOf t p.sum (j - r) r ≤ v
      then choose t r * cnt p (j - r) (v - shiftOf t p.sum (j - r) r) else 0 := by
  unfold cnt
  rw [asum_snoc, asum_finset_sum]
  refine sum_congr rfl fun r _ => ?_
  have key : ∀ rs ∈ allocs p,
      (if (rs ++ [r]).sum = j ∧ twoUof (p ++ [t]) (rs ++ [r]) 0 = v
        then weight (p ++ [t]) (rs ++ [r]) else 0)
        = if r ≤ j ∧ shiftOf t p.sum (j - r) r ≤ v
          then choose t r * (if rs.sum = j - r ∧ twoUof p rs 0 = v - shiftOf t p.sum (j - r) r
            then weight p rs else 0)
          else 0 := by
    intro rs hrs
    obtain ⟨hw, hU⟩ := weight_twoUof_snoc p t r rs hrs
    rw [hw, hU, Nat.zero_add, List.sum_append, List.sum_singleton]
    exact ite_add_eq_iff_sub _ _ _ _ _ _ _ _ _ fun h => by rw [shiftOf, ← h, Nat.add_sub_cancel]
  rw [asum_congr _ _ _ key]
  by_cases hc : r ≤ j ∧ shiftOf t p.sum (j - r) r ≤ v
  · simp only [if_pos hc]
    exact asum_mul_left p _ _
  · simp only [if_neg hc]
    exact asum_zero p

/-! ## the forward DP counts labelings -/

/-- table and number of pooled items after the groups `p` -/
def dpRun (n1 : Nat) (p : List Nat) : Array Poly × Nat :=
  p.foldl (fun x tk => (dpStep n1 x.1 tk x.2, x.2 + tk)) ((Array.replicate (n1 + 1) #[]).setIfInBounds 0 #[1], 0)

lemma fwdDP_eq (t : List Nat) (n1 : Nat) : fwdDP t n1 = (dpRun n1 t).1.getD n1 #[] := rfl

lemma dpRun_spec (n1 : Nat) (p : List Nat) :
    (dpRun n1 p).1.size = n1 + 1 ∧ (dpRun n1 p).2 = p.sum ∧
      ∀ j v, j ≤ n1 → coefT (dpRun n1 p).1 j v = cnt p j v := by
  induction p using List.reverseRecOn with
  | nil => exact ⟨by simp [dpRun], rfl, fun j v _ => by rw [cnt_nil]; exact coefT_init n1 j v⟩
  | append_singleton p t ih =>
    obtain ⟨h1, h2, h3⟩ := ih
    have e : dpRun n1 (p ++ [t]) = (dpStep n1 (dpRun n1 p).1 t (dpRun n1 p).2, (dpRun n1 p).2 + t) := by
      unfold dpRun; rw [List.foldl_append]; rfl
    obtain ⟨hs1, hs2⟩ := dpStep_spec n1 (dpRun n1 p).1 t (dpRun n1 p).2
    rw [e]
    refine ⟨hs1, by rw [h2, List.sum_append, List.sum_singleton], fun j v hj => ?_⟩
    rw [hs2 _ _ hj, cnt_snoc, h2]
    refine sum_congr rfl fun r _ => ?_
    by_cases hc : r ≤ j ∧ shiftOf t p.sum (j - r) r ≤ v
    · rw [if_pos hc, if_pos hc, h3 _ _ (by omega)]
    · rw [if_neg hc, if_neg hc]

/-- **U2 (main).** The coefficient of `q^v` in the forward-DP polynomial is exactly the number of
labelings (size-`n1` subsets of the pooled sample with tie structure `t`) whose doubled
Mann-Whitney statistic `2U` equals `v`, as defined by brute-force enumeration of allocations. -/
theorem fwdDP_coeff (t : List Nat) (n1 : Nat) (v : Nat) :
    (fwdDP t n1).getD v 0 = countEq t n1 (v : Int) := by
  rw [fwdDP_eq, countEq_eq_cnt]
  exact (dpRun_spec n1 t).2.2 n1 v le_rfl

example : (fwdDP [2, 1, 3] 2).getD 7 0 = countEq [2, 1, 3] 2 7 := fwdDP_coeff _ _ _
example : (fwdDP [2, 1, 3] 2).getD 7 0 = 6 := by rw [fwdDP_coeff]; decide +kernel

/-! ## prefix sums and totals -/

lemma take_sum (p : Poly) (m : Nat) : (p.toList.take m).sum = ∑ v ∈ range m, p.getD v 0 := by
  induction m with
  | zero => simp
  | succ m ih =>
    rw [List.take_add_one, List.sum_append, ih, sum_range_succ, Array.getD_eq_getD_getElem?,
      ← Array.getElem?_toList]
    congr 1
    cases p.toList[m]? <;> simp

lemma polyPrefix_eq (p : Poly) (k : Int) (hk : 0 ≤ k) :
    polyPrefix p k = ∑ v ∈ range (k.toNat + 1), p.getD v 0 := by
  unfold polyPrefix
  rw [if_neg (by omega), ← List.sum_eq_foldl, take_sum]

lemma polyPrefix_natCast (p : Poly) (k : Nat) :
    polyPrefix p (k : Int) = ∑ v ∈ range (k + 1), p.getD v 0 := by
  rw [polyPrefix_eq _ _ (Int.natCast_nonneg k), Int.toNat_natCast]

lemma polyPrefix_neg (p : Poly) (k : Int) (hk : k < 0) : polyPrefix p k = 0 := by
  unfold polyPrefix; rw [if_pos hk]

lemma polyTotal_eq (p : Poly) (B : Nat) (hB : p.size ≤ B) :
    polyTotal p = ∑ v ∈ range B, p.getD v 0 := by
  unfold polyTotal
  rw [← take_sum, List.take_of_length_le (by simpa using hB), ← Array.foldl_toList, ← List.sum_eq_foldl]

lemma sum_countEq (t : List Nat) (n1 m : Nat) :
    ∑ v ∈ range m, countEq t n1 (v : Int)
      = asum t (fun r => if r.sum = n1 ∧ twoUof t r 0 < m then weight t r else 0) := by
  simp only [countEq_eq_asum]
  rw [← asum_finset_sum]
  apply asum_congr
  intro r _
  by_cases h1 : r.sum = n1
  · simp only [h1, true_and, Nat.cast_inj]
    rw [sum_ite_eq]
    simp
  · simp [h1]

/-- **U2 (prefix form).** The prefix sum of the DP polynomial up to exponent `k` is the number of
labelings with `2U ≤ k` (the brute-force spec `countSpec`), for every integer `k` (negative too). -/
theorem fwdDP_prefix (t : List Nat) (n1 : Nat) (k : Int) :
    polyPrefix (fwdDP t n1) k = countSpec t n1 k := by
  by_cases hk : k < 0
  · rw [polyPrefix_neg _ _ hk, countSpec_neg _ _ _ hk]
  · rw [polyPrefix_eq _ _ (by omega)]
    simp only [fwdDP_coeff]
    rw [sum_countEq, countSpec_eq_asum]
    apply asum_congr
    intro r _
    have : (twoUof t r 0 < k.toNat + 1) ↔ ((twoUof t r 0 : Nat) : Int) ≤ k := by omega
    simp only [this]

example : polyPrefix (fwdDP [2, 1, 3] 2) 7 = 9 := by rw [fwdDP_prefix]; decide +kernel

/-! ## U3: total mass, bounds, cdf -/

/-- **U3 (total mass).** The coefficients of the DP polynomial add up to `C(N, n1)`, the number
of all size-`n1` subsets of the pooled sample: the probabilities sum to one. -/
theorem fwdDP_total (t : List Nat) (n1 : Nat) :
    polyTotal (fwdDP t n1) = Nat.choose (sumList t) n1 := by
  rw [polyTotal_eq _ (max (fwdDP t n1).size (2 * n1 * (t.sum - n1) + 1)) (le_max_left _ _)]
  simp only [fwdDP_coeff]
  rw [sum_countEq, sumList_eq, ← asum_weight]
  apply asum_congr
  intro r hr
  by_cases h1 : r.sum = n1
  · have := (twoUof_bound t r 0 hr).2
    rw [h1, Nat.zero_add] at this
    have : twoUof t r 0 < max (fwdDP t n1).size (2 * n1 * (t.sum - n1) + 1) := by
      apply lt_of_lt_of_le _ (le_max_right _ _); omega
    simp [h1, this]
  · simp [h1]

example : polyTotal (fwdDP [2, 1, 3] 2) = 15 := by rw [fwdDP_total]; decide +kernel

/-- the prefix sum reaches the total at the top of the support: for `k ≥ 2·n1·n2` everything is
included (this is why the guard `u ≥ n1·n2 ↦ 1` of `cdf` is continuous with the general branch). -/
theorem fwdDP_prefix_top (t : List Nat) (n1 n2 : Nat) (hN : sumList t = n1 + n2) (k : Int)
    (hk : ((2 * n1 * n2 : Nat) : Int) ≤ k) :
    polyPrefix (fwdDP t n1) k = polyTotal (fwdDP t n1) := by
  rw [fwdDP_prefix, fwdDP_total, countSpec_eq_asum, sumList_eq, ← asum_weight]
  rw [sumList_eq] at hN
  apply asum_congr
  intro r hr
  by_cases h1 : r.sum = n1
  · have := (twoUof_bound t r 0 hr).2
    rw [h1, Nat.zero_add, hN] at this
    have e : n1 + n2 - n1 = n2 := by omega
    rw [e] at this
    have : ((twoUof t r 0 : Nat) : Int) ≤ k := le_trans (by exact_mod_cast this) hk
    simp [h1, this]
  · simp [h1]

example : polyPrefix (fwdDP [2, 1, 3] 2) 16 = polyTotal (fwdDP [2, 1, 3] 2) :=
  fwdDP_prefix_top _ 2 4 (by decide) 16 (by decide)

lemma polyPrefix_mono (p : Poly) (k k' : Int) (h : k ≤ k') : polyPrefix p k ≤ polyPrefix p k' := by
  by_cases hk : k < 0
  · rw [polyPrefix_neg _ _ hk]; exact Nat.zero_le _
  · rw [polyPrefix_eq _ _ (by omega), polyPrefix_eq _ _ (by omega)]
    apply sum_le_sum_of_subset
    apply range_mono; omega

lemma polyPrefix_le_total (p : Poly) (k : Int) : polyPrefix p k ≤ polyTotal p := by
  by_cases hk : k < 0
  · rw [polyPrefix_neg _ _ hk]; exact Nat.zero_le _
  · rw [polyPrefix_eq _ _ (by omega), polyTotal_eq p (max p.size (k.toNat + 1)) (le_max_left _ _)]
    apply sum_le_sum_of_subset
    apply range_mono; exact le_max_right _ _

/-- the model's `Rat.floor` is the floor of the order structure -/
lemma ratFloor_eq_floor (q : Rat) : q.floor = ⌊q⌋ := rfl

/-- **U3 (range).** `cdf` takes values in `[0, 1]`. -/
theorem cdf_range (n1 n2 : Nat) (t : List Nat) (u : Rat) :
    0 ≤ cdf n1 n2 t u ∧ cdf n1 n2 t u ≤ 1 := by
  unfold cdf
  split_ifs with h1 h2
  · exact ⟨le_refl _, zero_le_one⟩
  · exact ⟨zero_le_one, le_refl _⟩
  · exact ⟨div_nonneg (Nat.cast_nonneg _) (Nat.cast_nonneg _), div_le_one_of_le₀ (by exact_mod_cast polyPrefix_le_total _ _) (Nat.cast_nonneg _)⟩

example : 0 ≤ cdf 2 4 [2, 1, 3] (7 / 2) ∧ cdf 2 4 [2, 1, 3] (7 / 2) ≤ 1 := cdf_range _ _ _ _

/-- **U3 (monotone).** `cdf` is monotone non-decreasing in `u`, for every `n1`, `n2`, `t`. -/
theorem cdf_mono (n1 n2 : Nat) (t : List Nat) (u u' : Rat) (h : u ≤ u') :
    cdf n1 n2 t u ≤ cdf n1 n2 t u' := by
  by_cases h1 : u < 0
  · have : cdf n1 n2 t u = 0 := by unfold cdf; rw [if_pos h1]
    rw [this]; exact (cdf_range n1 n2 t u').1
  · by_cases h2 : u' ≥ ((n1 * n2 : Nat) : Rat)
    · have : cdf n1 n2 t u' = 1 := by
        unfold cdf; rw [if_neg (not_lt.2 (le_trans (not_lt.1 h1) h)), if_pos h2]
      rw [this]; exact (cdf_range n1 n2 t u).2
    · have h3 : ¬ u ≥ ((n1 * n2 : Nat) : Rat) := by
        intro h3; apply h2; exact le_trans h3 h
      unfold cdf
      rw [if_neg h1, if_neg h3, if_neg (not_lt.2 (le_trans (not_lt.1 h1) h)), if_neg h2]
      apply div_le_div_of_nonneg_right _ (by positivity)
      rw [ratFloor_eq_floor, ratFloor_eq_floor]
      exact_mod_cast polyPrefix_mono _ _ _ (Int.floor_le_floor (mul_le_mul_of_nonneg_left h zero_le_two))

example : cdf 2 4 [2, 1, 3] (3 / 2) ≤ cdf 2 4 [2, 1, 3] (7 / 2) := cdf_mono _ _ _ _ _ (by norm_num)

/-- **U3 (spec form of `cdf`).** For a well-formed input (`Σ effT = n1 + n2`) and `u ≥ 0`, the API
value is exactly `#{labelings with 2U ≤ ⌊2u⌋} / C(n1+n2, n1)`, *including* in the guarded region
`u ≥ n1·n2`, where the count is everything. -/
theorem cdf_eq_countSpec (n1 n2 : Nat) (t : List Nat) (u : Rat)
    (hN : sumList (effT n1 n2 t) = n1 + n2) (hu : 0 ≤ u) :
    cdf n1 n2 t u = (countSpec (effT n1 n2 t) n1 (2 * u).floor : Rat) / (Nat.choose (n1 + n2) n1 : Rat) := by
  unfold cdf
  rw [if_neg (not_lt.2 hu)]
  split_ifs with h2
  · have hk : ((2 * n1 * n2 : Nat) : Int) ≤ (2 * u).floor := by
      rw [ratFloor_eq_floor, Int.le_floor]
      push_cast at h2 ⊢
      linarith
    rw [← fwdDP_prefix, fwdDP_prefix_top _ n1 n2 hN _ hk, fwdDP_total, hN]
    have : (0 : Rat) < (Nat.choose (n1 + n2) n1 : Rat) := by
      exact_mod_cast Nat.choose_pos (Nat.le_add_right _ _)
    rw [div_self (ne_of_gt this)]
  · simp only [fwdDP_prefix, fwdDP_total, hN]

example : cdf 2 4 [2, 1, 3] (7 / 2) = 9 / 15 := by
  rw [cdf_eq_countSpec _ _ _ _ (by decide) (by norm_num)]
  have : (2 * (7 / 2 : Rat)).floor = 7 := by
    rw [ratFloor_eq_floor]; norm_num
  rw [this]
  have h2 : countSpec (effT 2 4 [2, 1, 3]) 2 7 = 9 := by decide +kernel
  have h3 : Nat.choose (2 + 4) 2 = 15 := by decide +kernel
  rw [h2, h3]; norm_num

/-- **API-level point mass.** For a well-formed input, `pmfAt` at the grid point `twoU/2` is
`#{labelings with 2U = twoU} / C(n1+n2, n1)` (and `0` for negative `twoU`). -/
theorem pmfAt_eq_countEq (n1 n2 : Nat) (t : List Nat) (twoU : Int)
    (hN : sumList (effT n1 n2 t) = n1 + n2) :
    pmfAt n1 n2 t twoU = (countEq (effT n1 n2 t) n1 twoU : Rat) / (Nat.choose (n1 + n2) n1 : Rat) := by
  unfold pmfAt
  simp only [fwdDP_total, hN]
  split_ifs with h
  · rw [countEq_neg _ _ _ h]; simp
  · rw [fwdDP_coeff]
    have : ((twoU.toNat : Nat) : Int) = twoU := by omega
    rw [this]

example : pmfAt 2 4 [2, 1, 3] 7 = 6 / 15 := by
  rw [pmfAt_eq_countEq _ _ _ _ (by decide)]
  have h2 : countEq (effT 2 4 [2, 1, 3]) 2 7 = 6 := by decide +kernel
  have h3 : Nat.choose (2 + 4) 2 = 15 := by decide +kernel
  rw [h2, h3]; norm_num

/-! ## U4: mirror law -/

lemma asum_comp (ts : List Nat) (g : List Nat → Nat) :
    asum ts (fun rs => g (comp ts rs)) = asum ts g := by
  induction ts generalizing g with
  | nil => simp [asum_nil, comp]
  | cons t ts ih =>
    rw [asum_cons, asum_cons]
    simp only [comp]
    have : ∀ r, asum ts (fun rs => g ((t - r) :: comp ts rs)) = asum ts (fun rs => g ((t - r) :: rs)) :=
      fun r => ih (fun rs => g ((t - r) :: rs))
    simp only [this]
    have := sum_range_reflect (fun r => asum ts (fun rs => g (r :: rs))) (t + 1)
    simpa using this

/-- **U4 (mirror law).** With `N = Σ t` and `n2 = N − n1`, the number of labelings with sample-1
size `n1` and `2U = v` equals the number with sample-1 size `n2` and `2U = 2·n1·n2 − v`
(complement the labeling): the distribution for `(n1, n2, T)` is the mirror image of that for
`(n2, n1, T)`. -/
theorem countEq_mirror (t : List Nat) (n1 : Nat) (v : Int) (h : n1 ≤ sumList t) :
    countEq t n1 v
      = countEq t (sumList t - n1) (((2 * n1 * (sumList t - n1) : Nat) : Int) - v) := by
  rw [countEq_eq_asum, countEq_eq_asum]
  refine Eq.trans ?_ (asum_comp t _)
  rw [sumList_eq] at *
  apply asum_congr
  intro r hr
  obtain ⟨h1, h2, h3⟩ := comp_sum_weight_twoUof t r hr
  have h3 := h3 0 0
  rw [Nat.mul_zero, Nat.zero_mul, Nat.zero_mul, Nat.zero_add] at h3
  rw [h2]
  by_cases hs : r.sum = n1
  · have hs2 : (comp t r).sum = t.sum - n1 := by omega
    rw [hs2, hs] at h3
    exact if_congr ⟨fun h' => ⟨hs2, by omega⟩, fun h' => ⟨hs, by omega⟩⟩ rfl rfl
  · rw [if_neg fun h' => hs h'.1, if_neg fun h' => hs (by omega)]

example : countEq [2, 1, 3] 2 7 = countEq [2, 1, 3] 4 9 :=
  countEq_mirror [2, 1, 3] 2 7 (by decide)

/-! ## U5: the Mann-Whitney table -/

lemma cMW_zero_left (m u : Nat) : cMW 0 m u = if u = 0 then 1 else 0 := by
  rw [cMW]

lemma cMW_zero_right (n u : Nat) : cMW n 0 u = if u = 0 then 1 else 0 := by
  cases n <;> rw [cMW]

lemma cMW_succ (n m u : Nat) : cMW (n + 1) (m + 1) u =
    (if u ≥ m + 1 then cMW n (m + 1) (u - (m + 1)) else 0) + cMW (n + 1) m u := by
  rw [cMW]

lemma getD_one (u : Nat) : (#[1] : Poly).getD u 0 = if u = 0 then 1 else 0 := by
  cases u <;> rfl

lemma coefT_push (cur : Array Poly) (a : Poly) (n u : Nat) :
    coefT (cur.push a) n u = if n = cur.size then a.getD u 0 else coefT cur n u := by
  unfold coefT
  simp only [Array.getD_eq_getD_getElem?, Array.getElem?_push]
  split_ifs <;> simp

lemma mwNextRow_eq (prev : Array Poly) (m : Nat) :
    mwNextRow prev m = (List.range' 1 (prev.size - 1)).foldl
      (fun b a => b.push (polyAddShift (prev.getD a #[]) (b.getD (a - 1) #[]) m 1)) #[#[1]] := by
  unfold mwNextRow
  simp only [Id.run, Array.getD_eq_getD_getElem?, Std.Legacy.Range.forIn_eq_forIn_range',
    Std.Legacy.Range.size, add_tsub_cancel_right, Nat.div_one, List.forIn_pure_yield_eq_foldl, bind_pure]
  rfl

lemma mwNextRow_spec (prev : Array Poly) (m : Nat) (hsz : 1 ≤ prev.size)
    (hprev : ∀ n u, n < prev.size → coefT prev n u = cMW n m u) :
    (mwNextRow prev (m + 1)).size = prev.size ∧
    ∀ n u, n < prev.size → coefT (mwNextRow prev (m + 1)) n u = cMW n (m + 1) u := by
  rw [mwNextRow_eq]
  have key := foldl_range'_inv
    (fun k (cur : Array Poly) => cur.size = k ∧ ∀ n u, n < k → coefT cur n u = cMW n (m + 1) u)
    (fun b a => b.push (polyAddShift (prev.getD a #[]) (b.getD (a - 1) #[]) (m + 1) 1))
    1 (prev.size - 1) #[#[1]] ⟨rfl, ?_⟩ ?_
  · have e : 1 + (prev.size - 1) = prev.size := by omega
    rw [e] at key
    exact key
  · intro n u hn
    have : n = 0 := by omega
    subst this
    rw [cMW_zero_left]
    exact getD_one u
  · rintro k cur hk1 hk2 ⟨hc1, hc2⟩
    refine ⟨by simp [hc1], fun n u hn => ?_⟩
    rw [coefT_push]
    by_cases hnk : n = cur.size
    · rw [if_pos hnk, polyAddShift_getD]
      have hn' : n = k := by omega
      subst hn'
      obtain ⟨k', rfl⟩ : ∃ k', n = k' + 1 := ⟨n - 1, by omega⟩
      have h1 : (prev.getD (k' + 1) #[]).getD u 0 = cMW (k' + 1) m u := hprev (k' + 1) u (by omega)
      have h2 : ∀ w, (cur.getD k' #[]).getD w 0 = cMW k' (m + 1) w := fun w => hc2 k' w (by omega)
      rw [cMW_succ, Nat.add_sub_cancel, h1, h2, Nat.one_mul]
      exact Nat.add_comm _ _
    · rw [if_neg hnk]
      exact hc2 n u (by omega)

lemma mwRows_spec (N M : Nat) :
    (mwRows N M).size = N + 1 ∧ ∀ n u, n < N + 1 → coefT (mwRows N M) n u = cMW n M u := by
  unfold mwRows
  induction M with
  | zero =>
    simp only [List.range_zero, List.foldl_nil]
    refine ⟨by simp, fun n u hn => ?_⟩
    rw [cMW_zero_right]
    unfold coefT
    have : (Array.replicate (N + 1) (#[1] : Poly)).getD n #[] = #[1] := by
      simp [Array.getD_eq_getD_getElem?, hn]
    rw [this]; exact getD_one u
  | succ M ih =>
    rw [List.range_succ, List.foldl_append]
    simp only [List.foldl_cons, List.foldl_nil]
    have := mwNextRow_spec _ M (by rw [ih.1]; omega) (fun n u hn => ih.2 n u (by rw [ih.1] at hn; exact hn))
    rw [ih.1] at this
    exact this

/-- **U5 (table).** The row-wise Mann-Whitney table computes the recurrence `cMW`: the coefficient
of `q^u` in `mwPoly n m` is `cMW n m u`. -/
theorem mwPoly_coeff (n m u : Nat) : (mwPoly n m).getD u 0 = cMW n m u :=
  (mwRows_spec n m).2 n u (Nat.lt_succ_self n)

example : (mwPoly 2 2).getD 2 0 = 2 := by rw [mwPoly_coeff]; simp [cMW]

/-! ## U5: the recurrence counts labelings -/

def ones (k : Nat) : List Nat := List.replicate k 1

lemma ones_succ (k : Nat) : ones (k + 1) = ones k ++ [1] := List.replicate_succ'

lemma ones_sum (k : Nat) : (ones k).sum = k := by simp [ones]

/-- `cnt_snoc` for a last group of one item: it goes to sample 2 (`r = 0`, no shift) or to sample 1
(`r = 1`, shift `2 · #(sample-2 items before)`); this is the Mann-Whitney recurrence. -/
lemma cnt_ones_succ (k n v : Nat) :
    cnt (ones (k + 1)) n v = cnt (ones k) n v +
      (if 1 ≤ n ∧ 2 * (k - (n - 1)) ≤ v then cnt (ones k) (n - 1) (v - 2 * (k - (n - 1))) else 0) := by
  rw [ones_succ, cnt_snoc, ones_sum, sum_range_succ, sum_range_one]
  simp [shiftOf, choose_eq_nat]

/-- boundary values: with nothing (`cnt_zero_left`) or everything (`cnt_full`) in sample 1 only the
term `r = 0` (resp. `r = t`) of `cnt_snoc` survives, and its shift is `0` -/
lemma cnt_zero_left (p : List Nat) (v : Nat) : cnt p 0 v = if v = 0 then 1 else 0 := by
  induction p using List.reverseRecOn generalizing v with
  | nil => simp [cnt_nil]
  | append_singleton p t ih =>
    rw [cnt_snoc, sum_range_succ', sum_eq_zero fun r _ => if_neg (by omega), Nat.zero_add]
    simp [shiftOf, choose, ih]

lemma cnt_full (p : List Nat) (v : Nat) : cnt p p.sum v = if v = 0 then 1 else 0 := by
  induction p using List.reverseRecOn generalizing v with
  | nil => simp [cnt_nil]
  | append_singleton p t ih =>
    rw [cnt_snoc, sum_range_succ, sum_eq_zero, Nat.zero_add]
    · simp [shiftOf, choose_eq_nat, ih]
    · intro r hr
      rw [cnt_eq_zero _ _ _ (by simp at hr ⊢; omega), Nat.mul_zero, ite_self]

/-- `cMW_eq_count` below in the terms the induction uses (`cnt`, `ones`) -/
lemma cMW_eq_cnt (n m u : Nat) : cMW n m u = cnt (ones (n + m)) n (2 * u) := by
  induction n generalizing m u with
  | zero => rw [cMW_zero_left, cnt_zero_left]; exact if_congr (by omega) rfl rfl
  | succ n ihn =>
    induction m generalizing u with
    | zero =>
      have h := cnt_full (ones (n + 1)) (2 * u)
      rw [ones_sum] at h
      rw [cMW_zero_right, Nat.add_zero, h]; exact if_congr (by omega) rfl rfl
    | succ m ihm =>
      rw [cMW_succ, show n + 1 + (m + 1) = (n + 1 + m) + 1 from rfl, cnt_ones_succ, ← ihm, Nat.add_comm]
      congr 1
      rw [Nat.add_sub_cancel, show n + 1 + m - n = m + 1 by omega]
      by_cases hu : u ≥ m + 1
      · rw [if_pos hu, if_pos ⟨by omega, by omega⟩, ihn, show n + (m + 1) = n + 1 + m by omega, Nat.mul_sub]
      · rw [if_neg hu, if_neg (by omega)]

/-- **U5 (recurrence = count).** The Mann-Whitney recurrence `cMW n m u` is the number of
labelings of an untied pool of `n + m` items (`t = [1, …, 1]`) with `n` items in sample 1 and
`U = u`, i.e. `2U = 2u`. -/
theorem cMW_eq_count (n m u : Nat) :
    cMW n m u = countEq (List.replicate (n + m) 1) n (2 * u : Int) := by
  have h := countEq_eq_cnt (ones (n + m)) n (2 * u)
  unfold ones at h
  push_cast at h
  rw [h]
  exact cMW_eq_cnt n m u

example : countEq (List.replicate (2 + 2) 1) 2 (2 * (2 : Nat) : Int) = 2 := by decide +kernel
example : cMW 2 2 2 = 2 := by rw [cMW_eq_count]; decide +kernel

/-- with no ties, `2U` is always even -/
lemma cnt_ones_odd (k n u : Nat) : cnt (ones k) n (2 * u + 1) = 0 := by
  induction k generalizing n u with
  | zero => rw [show ones 0 = [] from rfl, cnt_nil, if_neg (by omega)]
  | succ k ih =>
    rw [cnt_ones_succ, ih, Nat.zero_add]
    split_ifs with h
    · obtain ⟨u', hu'⟩ : ∃ u', 2 * u + 1 - 2 * (k - (n - 1)) = 2 * u' + 1 :=
        ⟨u - (k - (n - 1)), by omega⟩
      rw [hu', ih]
    · rfl

lemma effT_nil (n1 n2 : Nat) : effT n1 n2 [] = ones (n1 + n2) := rfl

lemma sum_range_two_mul (f : Nat → Nat) (B : Nat) :
    ∑ v ∈ range (2 * B), f v = ∑ u ∈ range B, (f (2 * u) + f (2 * u + 1)) := by
  induction B with
  | zero => simp
  | succ B ih =>
    have e : 2 * (B + 1) = 2 * B + 1 + 1 := by ring
    rw [e, sum_range_succ, sum_range_succ, ih, sum_range_succ]; ring

lemma untied_even (n1 n2 u : Nat) :
    (fwdDP (ones (n1 + n2)) n1).getD (2 * u) 0 = (mwPoly n1 n2).getD u 0 := by
  rw [fwdDP_coeff, mwPoly_coeff, cMW_eq_count]
  unfold ones; push_cast; rfl

lemma untied_odd (n1 n2 u : Nat) :
    (fwdDP (ones (n1 + n2)) n1).getD (2 * u + 1) 0 = 0 := by
  rw [fwdDP_coeff, countEq_eq_cnt, cnt_ones_odd]

lemma untied_sum (n1 n2 B : Nat) :
    ∑ v ∈ range (2 * B), (fwdDP (ones (n1 + n2)) n1).getD v 0
      = ∑ u ∈ range B, (mwPoly n1 n2).getD u 0 := by
  rw [sum_range_two_mul]
  exact sum_congr rfl fun u _ => by rw [untied_even, untied_odd, Nat.add_zero]

lemma untied_total (n1 n2 : Nat) :
    polyTotal (fwdDP (ones (n1 + n2)) n1) = polyTotal (mwPoly n1 n2) := by
  set p := fwdDP (ones (n1 + n2)) n1
  set q := mwPoly n1 n2
  rw [polyTotal_eq p (2 * max p.size q.size) (by have := le_max_left p.size q.size; omega),
    polyTotal_eq q (max p.size q.size) (le_max_right _ _), untied_sum]

lemma untied_prefix_odd (n1 n2 k : Nat) :
    polyPrefix (fwdDP (ones (n1 + n2)) n1) ((2 * k + 1 : Nat) : Int) = polyPrefix (mwPoly n1 n2) (k : Int) := by
  rw [polyPrefix_natCast, polyPrefix_natCast]
  exact untied_sum n1 n2 (k + 1)

lemma untied_prefix_even (n1 n2 k : Nat) :
    polyPrefix (fwdDP (ones (n1 + n2)) n1) ((2 * k : Nat) : Int) = polyPrefix (mwPoly n1 n2) (k : Int) := by
  rw [← untied_prefix_odd, polyPrefix_natCast, polyPrefix_natCast, sum_range_succ _ (2 * k + 1),
    untied_odd]
  rfl

/-- **U5 (API level).** For an untied input (`T = nil`) the large-case path through the
Mann-Whitney table gives exactly the same CDF value as the generic forward-DP path. -/
theorem cdfUntiedMW_eq_cdf (n1 n2 : Nat) (u : Rat) : cdfUntiedMW n1 n2 u = cdf n1 n2 [] u := by
  unfold cdfUntiedMW cdf
  split_ifs with h1 h2
  · rfl
  · rfl
  · simp only [effT_nil]
    rw [untied_total]
    congr 2
    have hu : 0 ≤ u := not_lt.mp h1
    rw [ratFloor_eq_floor, ratFloor_eq_floor]
    have hk0 : 0 ≤ ⌊u⌋ := Int.floor_nonneg.mpr hu
    obtain ⟨k, hk⟩ : ∃ k : Nat, ⌊u⌋ = (k : Int) := ⟨⌊u⌋.toNat, by omega⟩
    have hlo : (2 * k : Int) ≤ ⌊2 * u⌋ := by
      rw [Int.le_floor]; push_cast
      have := Int.floor_le u; rw [hk] at this; push_cast at this; linarith
    have hhi : ⌊2 * u⌋ < (2 * k + 2 : Int) := by
      rw [Int.floor_lt]; push_cast
      have := Int.lt_floor_add_one u; rw [hk] at this; push_cast at this; linarith
    rw [hk]
    have : ⌊2 * u⌋ = ((2 * k : Nat) : Int) ∨ ⌊2 * u⌋ = ((2 * k + 1 : Nat) : Int) := by omega
    rcases this with h | h
    · rw [h, untied_prefix_even]
    · rw [h, untied_prefix_odd]

example : cdfUntiedMW 3 4 (5 / 2) = cdf 3 4 [] (5 / 2) := cdfUntiedMW_eq_cdf _ _ _

end MV.UDist
