import Mathlib.Tactic
import MV.Model.Graph
import MV.Props.C18Reach
/-!
# C18 — depth-first traversal (`visit`, `euler`, `preOrder`, `postOrder`)

What is proved of the model of graphalg's `Euler`/`PreOrder`/`PostOrder` (order.go, visit.go):

* F1 the Euler tour is `Enter root`, a well-nested sequence, `Exit root`;
* F2 no node is entered twice (a), none is exited twice (b), the post-order is a permutation of the
  pre-order (c);
* F3 exactly the nodes reachable from the root are visited (and the fuel `g.size + 1` suffices);
* F4 the pre-order starts with the root (a), the post-order ends with it (b);
* F5 successors are taken in adjacency order.

All of them follow from one induction principle for `visit`, `visit_ind`.
-/
namespace MV.Graph

/-! ## event sequences -/

/-- well-nested (Dyck) event sequences -/
inductive Nested : List (Bool × Nat) → Prop
  | nil : Nested []
  | node (v : Nat) {inner rest : List (Bool × Nat)} :
      Nested inner → Nested rest → Nested ((true, v) :: (inner ++ (false, v) :: rest))

/-- Enter events of an event list -/
def ent (l : List (Bool × Nat)) : List Nat := l.filterMap fun (b, v) => if b then some v else none
/-- Exit events of an event list -/
def ext (l : List (Bool × Nat)) : List Nat := l.filterMap fun (b, v) => if b then none else some v

lemma preOrder_eq (g : G) (r : Nat) : preOrder g r = ent (euler g r) := rfl
lemma postOrder_eq (g : G) (r : Nat) : postOrder g r = ext (euler g r) := rfl

@[simp] lemma ent_nil : ent [] = [] := rfl
@[simp] lemma ext_nil : ext [] = [] := rfl
@[simp] lemma ent_cons_true (v : Nat) (l) : ent ((true, v) :: l) = v :: ent l := by
  simp [ent]
@[simp] lemma ent_cons_false (v : Nat) (l) : ent ((false, v) :: l) = ent l := by
  simp [ent]
@[simp] lemma ext_cons_true (v : Nat) (l) : ext ((true, v) :: l) = ext l := by
  simp [ext]
@[simp] lemma ext_cons_false (v : Nat) (l) : ext ((false, v) :: l) = v :: ext l := by
  simp [ext]
@[simp] lemma ent_append (a b) : ent (a ++ b) = ent a ++ ent b := by
  simp [ent]
@[simp] lemma ext_append (a b) : ext (a ++ b) = ext a ++ ext b := by
  simp [ext]

lemma Nested.append {a b : List (Bool × Nat)} (ha : Nested a) (hb : Nested b) : Nested (a ++ b) := by
  induction ha with
  | nil => simpa using hb
  | node v hi _ _ ih2 =>
    have := Nested.node v hi ih2
    simpa [List.append_assoc] using this

lemma Nested.ext_perm_ent {l : List (Bool × Nat)} (h : Nested l) : (ext l).Perm (ent l) := by
  induction h with
  | nil => simp
  | node v _ _ ih1 ih2 =>
    simp only [ext_cons_true, ext_append, ext_cons_false, ent_cons_true, ent_append, ent_cons_false]
    exact List.perm_middle.trans ((ih1.append ih2).cons v)

/-! ## unfolding `visit` -/

/-- one step of the successor loop -/
def step (g : G) (f : Nat) (s : DState) (w : Nat) : DState :=
  if s.seen w then s else visit g f w s

def visitList (g : G) (f : Nat) (ws : List Nat) (s : DState) : DState := ws.foldl (step g f) s

/-- the state after marking and entering `v` -/
def enter (s : DState) (v : Nat) : DState := ⟨s.visited.setIfInBounds v true, (true, v) :: s.events⟩

lemma visit_zero (g : G) (v : Nat) (s : DState) : visit g 0 v s = s := rfl

lemma visit_succ (g : G) (f v : Nat) (s : DState) :
    visit g (f + 1) v s =
      ⟨(visitList g f (out g v) ⟨s.visited.setIfInBounds v true, (true, v) :: s.events⟩).visited,
       (false, v) :: (visitList g f (out g v)
          ⟨s.visited.setIfInBounds v true, (true, v) :: s.events⟩).events⟩ := rfl

@[simp] lemma visitList_nil (g : G) (f : Nat) (s : DState) : visitList g f [] s = s := rfl
@[simp] lemma visitList_cons (g : G) (f w : Nat) (ws : List Nat) (s : DState) :
    visitList g f (w :: ws) s = visitList g f ws (step g f s w) := rfl

lemma visit_succ_seen (g : G) (f v : Nat) (s : DState) (x : Nat) :
    (visit g (f + 1) v s).seen x = (visitList g f (out g v) (enter s v)).seen x := rfl

lemma visit_succ_events (g : G) (f v : Nat) (s : DState) :
    (visit g (f + 1) v s).events = (false, v) :: (visitList g f (out g v) (enter s v)).events := rfl

lemma enter_seen (s : DState) (v x : Nat) :
    (enter s v).seen x = true ↔ (s.seen x = true ∨ (x = v ∧ v < s.visited.size)) := by
  unfold enter DState.seen
  rw [getD_setIfInBounds]
  split_ifs with h
  · exact iff_of_true rfl (Or.inr ⟨h.1, h.1 ▸ h.2⟩)
  · exact (or_iff_left fun h' : x = v ∧ v < s.visited.size => h ⟨h'.1, h'.1 ▸ h'.2⟩).symm

lemma enter_size (s : DState) (v : Nat) : (enter s v).visited.size = s.visited.size := by
  simp [enter]

lemma enter_events (s : DState) (v : Nat) : (enter s v).events = (true, v) :: s.events := rfl

/-- Induction over a run of `visit`.  `P f v s t` speaks of a call (`t = visit g f v s`), `Q f ws s t`
of a successor loop (`t = visitList g f ws s`).  The cases: no fuel; a call, given its loop; the
empty loop; a successor that is already marked; a successor that is visited by a recursive call. -/
lemma visit_ind (g : G) {P : Nat → Nat → DState → DState → Prop}
    {Q : Nat → List Nat → DState → DState → Prop}
    (zero : ∀ v s, P 0 v s s)
    (succ : ∀ f v s, Q f (out g v) (enter s v) (visitList g f (out g v) (enter s v)) →
      P (f + 1) v s (visit g (f + 1) v s))
    (nil : ∀ f s, Q f [] s s)
    (skip : ∀ f w ws s, s.seen w = true → Q f ws s (visitList g f ws s) →
      Q f (w :: ws) s (visitList g f ws s))
    (call : ∀ f w ws s, ¬ s.seen w = true → P f w s (visit g f w s) →
      Q f ws (visit g f w s) (visitList g f ws (visit g f w s)) →
      Q f (w :: ws) s (visitList g f ws (visit g f w s))) (f : Nat) :
    (∀ v s, P f v s (visit g f v s)) ∧ ∀ ws s, Q f ws s (visitList g f ws s) := by
  have loop : ∀ f, (∀ v s, P f v s (visit g f v s)) → ∀ ws s, Q f ws s (visitList g f ws s) := by
    intro f hP ws
    induction ws with
    | nil => exact nil f
    | cons w ws ih =>
      intro s
      rw [visitList_cons, step]
      split_ifs with h
      · exact skip f w ws s h (ih s)
      · exact call f w ws s h (hP w s) (ih _)
  induction f with
  | zero => exact ⟨zero, loop 0 zero⟩
  | succ f ih =>
    have hP : ∀ v s, P (f + 1) v s (visit g (f + 1) v s) := fun v s => succ f v s (ih.2 _ _)
    exact ⟨hP, loop _ hP⟩

/-! ## size and monotonicity of `visited` -/

lemma visit_frame (g : G) (f : Nat) :
    (∀ v s, (visit g f v s).visited.size = s.visited.size ∧
      ∀ x, s.seen x = true → (visit g f v s).seen x = true) ∧
    ∀ ws s, (visitList g f ws s).visited.size = s.visited.size ∧
      ∀ x, s.seen x = true → (visitList g f ws s).seen x = true :=
  visit_ind g
    (P := fun _ _ s t => t.visited.size = s.visited.size ∧ ∀ x, s.seen x = true → t.seen x = true)
    (Q := fun _ _ s t => t.visited.size = s.visited.size ∧ ∀ x, s.seen x = true → t.seen x = true)
    (fun _ _ => ⟨rfl, fun _ h => h⟩)
    (fun _ v s h => ⟨h.1.trans (enter_size s v), fun x hx => h.2 x ((enter_seen s v x).2 (Or.inl hx))⟩)
    (fun _ _ => ⟨rfl, fun _ h => h⟩)
    (fun _ _ _ _ _ h => h)
    (fun _ _ _ _ _ h1 h2 => ⟨h2.1.trans h1.1, fun x hx => h2.2 x (h1.2 x hx)⟩) f

lemma visit_size (g : G) (f v : Nat) (s : DState) : (visit g f v s).visited.size = s.visited.size :=
  ((visit_frame g f).1 v s).1

lemma visitList_size (g : G) (f : Nat) : ∀ (ws : List Nat) (s : DState),
    (visitList g f ws s).visited.size = s.visited.size :=
  fun ws s => ((visit_frame g f).2 ws s).1

lemma visit_mono (g : G) (f v : Nat) (s : DState) (x : Nat) (h : s.seen x = true) :
    (visit g f v s).seen x = true :=
  ((visit_frame g f).1 v s).2 x h

lemma visitList_mono (g : G) (f : Nat) (ws : List Nat) (s : DState) (x : Nat) (h : s.seen x = true) :
    (visitList g f ws s).seen x = true :=
  ((visit_frame g f).2 ws s).2 x h

/-! ## events: well-nestedness -/

lemma visit_events (g : G) (f : Nat) :
    (∀ v s, ∃ l, (visit g f v s).events = l.reverse ++ s.events ∧ Nested l ∧
      (f ≠ 0 → ∃ inner, l = (true, v) :: (inner ++ [(false, v)]) ∧ Nested inner)) ∧
    ∀ ws s, ∃ l, (visitList g f ws s).events = l.reverse ++ s.events ∧ Nested l := by
  refine visit_ind g
    (P := fun f v s t => ∃ l, t.events = l.reverse ++ s.events ∧ Nested l ∧
      (f ≠ 0 → ∃ inner, l = (true, v) :: (inner ++ [(false, v)]) ∧ Nested inner))
    (Q := fun _ _ s t => ∃ l, t.events = l.reverse ++ s.events ∧ Nested l) ?_ ?_ ?_ ?_ ?_ f
  · exact fun v s => ⟨[], rfl, Nested.nil, fun h => absurd rfl h⟩
  · rintro f v s ⟨inner, h1, n1⟩
    refine ⟨(true, v) :: (inner ++ [(false, v)]), ?_, Nested.node v n1 Nested.nil,
      fun _ => ⟨inner, rfl, n1⟩⟩
    rw [visit_succ_events, h1, enter_events]; simp
  · exact fun _ s => ⟨[], rfl, Nested.nil⟩
  · exact fun _ _ _ _ _ h => h
  · rintro f w ws s - ⟨l1, h1, n1, -⟩ ⟨l2, h2, n2⟩
    exact ⟨l1 ++ l2, by rw [h2, h1]; simp, n1.append n2⟩

/-- **F1.** The Euler tour is `Enter root`, a well-nested (Dyck) sequence of Enter/Exit
events, `Exit root`.  (Holds for every graph and root, no well-formedness needed.) -/
theorem euler_balanced (g : G) (root : Nat) :
    ∃ inner, euler g root = (true, root) :: inner ++ [(false, root)] ∧ Nested inner := by
  obtain ⟨l, h1, _, h3⟩ := (visit_events g (g.size + 1)).1 root ⟨Array.replicate g.size false, []⟩
  obtain ⟨inner, rfl, hn⟩ := h3 (by omega)
  refine ⟨inner, ?_, hn⟩
  unfold euler
  rw [h1]; simp

/-- the whole Euler tour is a well-nested sequence -/
theorem euler_nested (g : G) (root : Nat) : Nested (euler g root) := by
  obtain ⟨inner, h, hn⟩ := euler_balanced g root
  rw [h]
  exact Nested.node root hn Nested.nil

/-- **F2c.** The post-order is a permutation of the pre-order. -/
theorem post_perm_pre (g : G) (root : Nat) : (postOrder g root).Perm (preOrder g root) := by
  rw [preOrder_eq, postOrder_eq]
  exact (euler_nested g root).ext_perm_ent

/-- **F4a.** The pre-order starts with the root. -/
theorem preOrder_head (g : G) (root : Nat) : (preOrder g root).head? = some root := by
  obtain ⟨inner, h, _⟩ := euler_balanced g root
  rw [preOrder_eq, h]; simp

/-- **F4b.** The post-order ends with the root. -/
theorem postOrder_last (g : G) (root : Nat) : (postOrder g root).getLast? = some root := by
  obtain ⟨inner, h, _⟩ := euler_balanced g root
  rw [postOrder_eq, h]; simp

/-! ## Enter events are exactly the newly marked nodes, without repetition -/

/-- the events from `s` to `t` enter exactly the nodes marked in between, each once -/
def Entered (s t : DState) : Prop :=
  ∃ l, t.events = l.reverse ++ s.events ∧ (ent l).Nodup ∧
    ∀ x, x ∈ ent l ↔ (t.seen x = true ∧ ¬ s.seen x = true)

lemma visit_entered (g : G) (hwf : WF g) (f v : Nat) (s : DState)
    (hs : s.visited.size = g.size) (hv : v < g.size) (hsv : ¬ s.seen v = true) :
    Entered s (visit g f v s) := by
  refine (visit_ind g
    (P := fun _ v s t => s.visited.size = g.size → v < g.size → ¬ s.seen v = true → Entered s t)
    (Q := fun _ ws s t => s.visited.size = g.size → (∀ w ∈ ws, w < g.size) → Entered s t)
    ?_ ?_ ?_ ?_ ?_ f).1 v s hs hv hsv
  · exact fun _ s _ _ _ => ⟨[], rfl, List.nodup_nil, fun x => by simp⟩
  · intro f v s ih hs hv hsv
    obtain ⟨inner, e1, nd1, m1⟩ := ih (by rw [enter_size, hs]) (fun w hw => hwf v hv w hw)
    have hvs : (enter s v).seen v = true := (enter_seen s v v).2 (Or.inr ⟨rfl, hs ▸ hv⟩)
    refine ⟨(true, v) :: (inner ++ [(false, v)]), ?_, ?_, ?_⟩
    · rw [visit_succ_events, e1, enter_events]; simp
    · simp only [ent_cons_true, ent_append, ent_cons_false, ent_nil, List.append_nil,
        List.nodup_cons]
      exact ⟨fun h => ((m1 v).1 h).2 hvs, nd1⟩
    · intro x
      simp only [ent_cons_true, ent_append, ent_cons_false, ent_nil, List.append_nil,
        List.mem_cons, visit_succ_seen]
      rw [m1]
      constructor
      · rintro (rfl | ⟨h1, h2⟩)
        · exact ⟨visitList_mono g f _ _ _ hvs, hsv⟩
        · exact ⟨h1, fun h => h2 ((enter_seen s v x).2 (Or.inl h))⟩
      · rintro ⟨h1, h2⟩
        by_cases h3 : (enter s v).seen x = true
        · rcases (enter_seen s v x).1 h3 with h | ⟨h, _⟩
          · exact absurd h h2
          · exact Or.inl h
        · exact Or.inr ⟨h1, h3⟩
  · exact fun _ s _ _ => ⟨[], rfl, List.nodup_nil, fun x => by simp⟩
  · exact fun _ w ws s _ ih hs hws => ih hs fun w' h => hws w' (List.mem_cons_of_mem _ h)
  · intro f w ws s hsw ih1 ih2 hs hws
    obtain ⟨l1, e1, nd1, m1⟩ := ih1 hs (hws w List.mem_cons_self) hsw
    obtain ⟨l2, e2, nd2, m2⟩ := ih2 (by rw [visit_size, hs])
      fun w' h => hws w' (List.mem_cons_of_mem _ h)
    refine ⟨l1 ++ l2, by rw [e2, e1]; simp, ?_, ?_⟩
    · rw [ent_append, List.nodup_append]
      refine ⟨nd1, nd2, ?_⟩
      rintro a ha b hb rfl
      exact ((m2 a).1 hb).2 ((m1 a).1 ha).1
    · intro x
      rw [ent_append, List.mem_append, m1, m2]
      constructor
      · rintro (⟨h1, h2⟩ | ⟨h1, h2⟩)
        · exact ⟨visitList_mono g f ws _ x h1, h2⟩
        · exact ⟨h1, fun h => h2 (visit_mono g f w s x h)⟩
      · rintro ⟨h1, h2⟩
        by_cases h3 : (visit g f w s).seen x = true
        · exact Or.inl ⟨h3, h2⟩
        · exact Or.inr ⟨h1, h3⟩

def init (g : G) : DState := ⟨Array.replicate g.size false, []⟩

lemma init_seen (g : G) (x : Nat) : ¬ (init g).seen x = true := by
  rw [init, DState.seen, getD_replicate]
  exact Bool.false_ne_true

lemma init_size (g : G) : (init g).visited.size = g.size := by simp [init]

def final (g : G) (root : Nat) : DState := visit g (g.size + 1) root (init g)

lemma euler_eq (g : G) (root : Nat) : euler g root = (final g root).events.reverse := rfl

/-- `visit_entered` for the whole run: the pre-order lists the nodes marked at the end, each once -/
lemma preOrder_nodup_mem (g : G) (hwf : WF g) (root : Nat) (hr : root < g.size) :
    (preOrder g root).Nodup ∧ ∀ x, x ∈ preOrder g root ↔ (final g root).seen x = true := by
  obtain ⟨l, e, nd, m⟩ := visit_entered g hwf (g.size + 1) root (init g) (init_size g) hr
    (init_seen g root)
  have : euler g root = l := by
    rw [euler_eq, final, e]; simp [init]
  rw [preOrder_eq, this]
  exact ⟨nd, fun x => (m x).trans (and_iff_left (init_seen g x))⟩

lemma mem_preOrder_seen (g : G) (hwf : WF g) (root : Nat) (hr : root < g.size) (x : Nat) :
    x ∈ preOrder g root ↔ (final g root).seen x = true :=
  (preOrder_nodup_mem g hwf root hr).2 x

/-- **F2a.** No node is entered twice. -/
theorem preOrder_nodup (g : G) (root : Nat) (hwf : WF g) (hr : root < g.size) :
    (preOrder g root).Nodup :=
  (preOrder_nodup_mem g hwf root hr).1

/-- **F2b.** No node is exited twice. -/
theorem postOrder_nodup (g : G) (root : Nat) (hwf : WF g) (hr : root < g.size) :
    (postOrder g root).Nodup :=
  (post_perm_pre g root).nodup_iff.2 (preOrder_nodup g root hwf hr)

/-! ## soundness: everything newly marked is reachable -/

lemma visit_sound (g : G) (hwf : WF g) (f v : Nat) (s : DState) (hv : v < g.size) (x : Nat)
    (h1 : (visit g f v s).seen x = true) (h2 : ¬ s.seen x = true) : Path g v x := by
  refine (visit_ind g
    (P := fun _ v s t => v < g.size → ∀ x, t.seen x = true → ¬ s.seen x = true → Path g v x)
    (Q := fun _ ws s t => (∀ w ∈ ws, w < g.size) →
      ∀ x, t.seen x = true → ¬ s.seen x = true → ∃ w ∈ ws, Path g w x) ?_ ?_ ?_ ?_ ?_ f).1
    v s hv x h1 h2
  · exact fun _ _ _ x h1 h2 => absurd h1 h2
  · intro f v s ih hv x h1 h2
    rw [visit_succ_seen] at h1
    by_cases h3 : (enter s v).seen x = true
    · rcases (enter_seen s v x).1 h3 with h | ⟨h, _⟩
      · exact absurd h h2
      · exact h ▸ Relation.ReflTransGen.refl
    · obtain ⟨w, hw, p⟩ := ih (fun w hw => hwf v hv w hw) x h1 h3
      exact Relation.ReflTransGen.head ⟨hv, hw⟩ p
  · exact fun _ _ _ x h1 h2 => absurd h1 h2
  · intro f w ws s _ ih hws x h1 h2
    obtain ⟨w', hw', p⟩ := ih (fun w' h => hws w' (List.mem_cons_of_mem _ h)) x h1 h2
    exact ⟨w', List.mem_cons_of_mem _ hw', p⟩
  · intro f w ws s _ ih1 ih2 hws x h1 h2
    by_cases h3 : (visit g f w s).seen x = true
    · exact ⟨w, List.mem_cons_self, ih1 (hws w List.mem_cons_self) x h3 h2⟩
    · obtain ⟨w', hw', p⟩ := ih2 (fun w' h => hws w' (List.mem_cons_of_mem _ h)) x h1 h3
      exact ⟨w', List.mem_cons_of_mem _ hw', p⟩

/-- **F3 (soundness).** Every visited node is reachable from the root. -/
theorem mem_preOrder_path (g : G) (root : Nat) (hwf : WF g) (hr : root < g.size) (v : Nat)
    (h : v ∈ preOrder g root) : Path g root v := by
  rw [mem_preOrder_seen g hwf root hr] at h
  exact visit_sound g hwf _ root (init g) hr v h (init_seen g v)

/-! ## completeness: fuel never runs out, and newly marked nodes are fully explored -/

def unseen (g : G) (s : DState) : Nat :=
  ((Finset.range g.size).filter fun x => ¬ s.seen x = true).card

lemma unseen_le_size (g : G) (s : DState) : unseen g s ≤ g.size := count_le

lemma unseen_mono (g : G) (s t : DState) (h : ∀ x, s.seen x = true → t.seen x = true) :
    unseen g t ≤ unseen g s :=
  count_mono fun x hx hs => hx (h x hs)

lemma unseen_lt (g : G) (s t : DState) (h : ∀ x, s.seen x = true → t.seen x = true)
    (v : Nat) (hv : v < g.size) (hsv : ¬ s.seen v = true) (htv : t.seen v = true) :
    unseen g t < unseen g s :=
  count_lt (fun x hx hs => hx (h x hs)) hv hsv (fun h' => h' htv)

/-- the successors of every node marked between `s` and `t` are marked in `t` -/
def Explored (g : G) (s t : DState) : Prop :=
  ∀ x, t.seen x = true → ¬ s.seen x = true → ∀ y ∈ out g x, t.seen y = true

lemma visit_explored (g : G) (hwf : WF g) (f v : Nat) (s : DState)
    (hs : s.visited.size = g.size) (hv : v < g.size) (hsv : ¬ s.seen v = true)
    (hf : unseen g s < f) :
    (visit g f v s).seen v = true ∧ Explored g s (visit g f v s) := by
  refine (visit_ind g
    (P := fun f v s t => s.visited.size = g.size → v < g.size → ¬ s.seen v = true →
      unseen g s < f → t.seen v = true ∧ Explored g s t)
    (Q := fun f ws s t => s.visited.size = g.size → (∀ w ∈ ws, w < g.size) → unseen g s < f →
      (∀ w ∈ ws, t.seen w = true) ∧ Explored g s t)
    ?_ ?_ ?_ ?_ ?_ f).1 v s hs hv hsv hf
  · exact fun _ _ _ _ _ h => absurd h (Nat.not_lt_zero _)
  · intro f v s ih hs hv hsv hf
    have hvs : (enter s v).seen v = true := (enter_seen s v v).2 (Or.inr ⟨rfl, hs ▸ hv⟩)
    have hf' : unseen g (enter s v) < f :=
      Nat.lt_of_lt_of_le (unseen_lt g s (enter s v) (fun x h => (enter_seen s v x).2 (Or.inl h)) v hv
        hsv hvs) (Nat.le_of_lt_succ hf)
    obtain ⟨a1, a2⟩ := ih (by rw [enter_size, hs]) (fun w hw => hwf v hv w hw) hf'
    simp only [visit_succ_seen]
    refine ⟨visitList_mono g f _ _ _ hvs, ?_⟩
    intro x h1 h2 y hy
    by_cases h3 : (enter s v).seen x = true
    · rcases (enter_seen s v x).1 h3 with h | ⟨h, _⟩
      · exact absurd h h2
      · exact a1 y (h ▸ hy)
    · exact a2 x h1 h3 y hy
  · exact fun _ _ _ _ _ => ⟨fun _ h => (nomatch h), fun x h1 h2 => absurd h1 h2⟩
  · intro f w ws s hsw ih hs hws hf
    obtain ⟨a1, a2⟩ := ih hs (fun w' h => hws w' (List.mem_cons_of_mem _ h)) hf
    refine ⟨fun w' hw' => ?_, a2⟩
    rcases List.mem_cons.1 hw' with rfl | h
    · exact visitList_mono g f ws s _ hsw
    · exact a1 w' h
  · intro f w ws s hsw ih1 ih2 hs hws hf
    obtain ⟨b1, b2⟩ := ih1 hs (hws w List.mem_cons_self) hsw hf
    obtain ⟨a1, a2⟩ := ih2 (by rw [visit_size, hs]) (fun w' h => hws w' (List.mem_cons_of_mem _ h))
      (lt_of_le_of_lt (unseen_mono g s _ (visit_mono g f w s)) hf)
    refine ⟨fun w' hw' => ?_, fun x h1 h2 y hy => ?_⟩
    · rcases List.mem_cons.1 hw' with rfl | h
      · exact visitList_mono g f ws _ _ b1
      · exact a1 w' h
    · by_cases h3 : (visit g f w s).seen x = true
      · exact visitList_mono g f ws _ _ (b2 x h3 h2 y hy)
      · exact a2 x h1 h3 y hy

/-- **F3 (completeness).** Every node reachable from the root is visited: the fuel
`g.size + 1` never runs out. -/
theorem path_mem_preOrder (g : G) (root : Nat) (hwf : WF g) (hr : root < g.size) (v : Nat)
    (h : Path g root v) : v ∈ preOrder g root := by
  rw [mem_preOrder_seen g hwf root hr]
  obtain ⟨c1, c2⟩ := visit_explored g hwf (g.size + 1) root (init g) (init_size g) hr
    (init_seen g root) (Nat.lt_succ_of_le (unseen_le_size g _))
  induction h with
  | refl => exact c1
  | tail _ hbc ih => exact c2 _ ih (init_seen g _) _ hbc.2

/-- **F3.** Exactly the nodes reachable from the root are visited. -/
theorem mem_preOrder_iff (g : G) (root : Nat) (hwf : WF g) (hr : root < g.size) (v : Nat) :
    v ∈ preOrder g root ↔ Path g root v :=
  ⟨mem_preOrder_path g root hwf hr v, path_mem_preOrder g root hwf hr v⟩

/-- **F3'.** Exactly the nodes reachable from the root are exited. -/
theorem mem_postOrder_iff (g : G) (root : Nat) (hwf : WF g) (hr : root < g.size) (v : Nat) :
    v ∈ postOrder g root ↔ Path g root v := by
  rw [(post_perm_pre g root).mem_iff]; exact mem_preOrder_iff g root hwf hr v

/-! ## first-successor order -/

/-- **F5.** Adjacency order is followed: if the first successor `w` of the root is not the
root itself, it is the second node entered. -/
theorem preOrder_second (g : G) (root w : Nat) (rest : List Nat) (hr : root < g.size)
    (ho : out g root = w :: rest) (hw : w ≠ root) : (preOrder g root)[1]? = some w := by
  obtain ⟨n, hn⟩ : ∃ n, g.size = n + 1 := ⟨g.size - 1, by omega⟩
  have hsw : ¬ (enter (init g) root).seen w = true := by
    rw [enter_seen]
    rintro (h | ⟨h, _⟩)
    · exact init_seen g w h
    · exact hw h
  obtain ⟨l1, h1, _, h1'⟩ := (visit_events g (n + 1)).1 w (enter (init g) root)
  obtain ⟨inner, rfl, _⟩ := h1' (by omega)
  obtain ⟨l2, h2, -⟩ := (visit_events g (n + 1)).2 rest (visit g (n + 1) w (enter (init g) root))
  have he : euler g root =
      (true, root) :: (((true, w) :: (inner ++ [(false, w)])) ++ l2 ++ [(false, root)]) := by
    rw [euler_eq, final, hn, visit_succ_events, ho, visitList_cons]
    have hst : step g (n + 1) (enter (init g) root) w = visit g (n + 1) w (enter (init g) root) := by
      simp [step, hsw]
    rw [hst, h2, h1, enter_events]
    simp [init]
  -- the tour starts `Enter root, Enter w`; the pre-order keeps the Enter events
  rw [preOrder_eq, he]
  simp

/-! ## a concrete graph

`0 → 1, 2`, `1 → 2`, `2 → 0, 3`, `3` has no successors, `4 → 0` (node 4 is unreachable from 0). -/

def exGdfs : G := #[[1, 2], [2], [0, 3], [], [0]]

example : WF exGdfs := by decide
example : euler exGdfs 0 =
    [(true, 0), (true, 1), (true, 2), (true, 3), (false, 3), (false, 2), (false, 1), (false, 0)] := by
  decide +kernel
example : ∃ inner, euler exGdfs 0 = (true, 0) :: inner ++ [(false, 0)] ∧ Nested inner :=
  euler_balanced exGdfs 0
example : Nested (euler exGdfs 0) := euler_nested exGdfs 0
example : (preOrder exGdfs 0).Nodup := preOrder_nodup exGdfs 0 (by decide) (by decide)
example : (postOrder exGdfs 0).Nodup := postOrder_nodup exGdfs 0 (by decide) (by decide)
example : preOrder exGdfs 0 = [0, 1, 2, 3] ∧ postOrder exGdfs 0 = [3, 2, 1, 0] := by decide +kernel
example : (postOrder exGdfs 0).Perm (preOrder exGdfs 0) := post_perm_pre exGdfs 0
example : (preOrder exGdfs 0).head? = some 0 := preOrder_head exGdfs 0
example : (postOrder exGdfs 0).getLast? = some 0 := postOrder_last exGdfs 0
example : (preOrder exGdfs 0)[1]? = some 1 :=
  preOrder_second exGdfs 0 1 [2] (by decide) (by decide) (by decide)
/-- soundness used forwards: 3 is visited, hence reachable -/
example : Path exGdfs 0 3 := mem_preOrder_path exGdfs 0 (by decide) (by decide) 3 (by decide)
/-- completeness used backwards: 4 is not visited, hence not reachable from 0 -/
example : ¬ Path exGdfs 0 4 := by
  rw [← mem_preOrder_iff exGdfs 0 (by decide) (by decide)]; decide
/-- completeness used forwards on a path given edge by edge -/
example : 3 ∈ preOrder exGdfs 0 :=
  path_mem_preOrder exGdfs 0 (by decide) (by decide) 3
    (Relation.ReflTransGen.head (b := 2) ⟨by decide, by decide⟩
      (Relation.ReflTransGen.single ⟨by decide, by decide⟩))
example : 3 ∈ postOrder exGdfs 0 ↔ Path exGdfs 0 3 := mem_postOrder_iff exGdfs 0 (by decide) (by decide) 3
/-- well-formedness is needed for F2: an out-of-range successor is never marked, so it is
entered once per incoming edge -/
example : ¬ WF #[[5, 5]] ∧ preOrder #[[5, 5]] 0 = [0, 5, 5] := by decide +kernel
/-- from a root that reaches everything (4 → 0 → …) all five nodes are visited -/
example : preOrder exGdfs 4 = [4, 0, 1, 2, 3] := by decide +kernel

end MV.Graph
