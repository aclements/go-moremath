import Mathlib.Tactic
import MV.Model.Graph
/-!
# C18 — the graph vocabulary and toolkit; reachability closure decides paths; the SCC checker

This file is the base of all other graph files (`C18*`, `C19*`).  It holds

* the vocabulary `WF`, `Edge`, `Path`;
* arrays: `getD_replicate`, `getD_of_size_le`, `getD_setIfInBounds` (and `_of_lt`), `foldl_set_size`,
  `foldl_set_getD`, `toList_eq_map_getD`;
* lists: `getD_of_lt`, `getD_reverse`, `split_reverse_getD`, `lt_of_mem_getD`, `getD_mem`,
  `mem_flatten_of_getD`; `sortNat` and
  `dedupSorted` (`sortNat_perm`, `sortNat_sorted`, `sortNat_eq_of_perm`, `mem_dedupSorted`, …);
* counting: `count_le`, `count_mono`, `count_lt`, the termination measure of every traversal;
* R1 `reachB_iff_path`: `g.size` rounds of successor expansion decide `Path`;
* R2 `holdsSCC_eq_none` and the theorems read off from it: if the checker `holdsSCC` accepts a claimed
  SCC result then (a) the components partition the nodes, (b) two nodes share a component iff they
  are mutually reachable, (c) component indices never increase along an edge, (d) the out-lists are
  the sorted lists of the other components entered by an edge;
* R3 `sccSpec_mutual`: the definitional partition `sccSpec` groups exactly the mutually reachable nodes.
-/
namespace MV.Graph

/-- valid graph: every successor id is a node id -/
def WF (g : G) : Prop := ∀ u < g.size, ∀ v ∈ out g u, v < g.size

instance (g : G) : Decidable (WF g) := by unfold WF; infer_instance

/-- `a → b` is an edge of `g` -/
def Edge (g : G) (a b : Nat) : Prop := a < g.size ∧ b ∈ out g a

instance (g : G) (a b : Nat) : Decidable (Edge g a b) := by unfold Edge; infer_instance

/-- reflexive-transitive closure of the edge relation -/
def Path (g : G) : Nat → Nat → Prop := Relation.ReflTransGen (Edge g)

/-! ## arrays: `getD` after `replicate`, out of range, after `setIfInBounds` -/

lemma getD_replicate {α} (n i : Nat) (x : α) : (Array.replicate n x).getD i x = x := by
  rw [Array.getD_eq_getD_getElem?, Array.getElem?_replicate]
  split <;> rfl

lemma getD_of_size_le {α} (a : Array α) (i : Nat) (d : α) (h : a.size ≤ i) : a.getD i d = d := by
  rw [Array.getD_eq_getD_getElem?, Array.getElem?_eq_none h]
  rfl

lemma getD_setIfInBounds {α} (a : Array α) (w v : Nat) (x d : α) :
    (a.setIfInBounds w x).getD v d = if v = w ∧ v < a.size then x else a.getD v d := by
  rw [Array.getD_eq_getD_getElem?, Array.getElem?_setIfInBounds, Array.getD_eq_getD_getElem?]
  by_cases h : w = v
  · subst h
    by_cases h2 : w < a.size <;> simp [h2]
  · simp [h, Ne.symm h]

lemma getD_setIfInBounds_of_lt {α} (a : Array α) {w : Nat} (v : Nat) (x d : α) (h : w < a.size) :
    (a.setIfInBounds w x).getD v d = if v = w then x else a.getD v d := by
  rw [getD_setIfInBounds]
  exact if_congr (and_iff_left_of_imp fun e => e ▸ h) rfl rfl

lemma foldl_set_size {α} (ws : List Nat) (x : α) (a : Array α) :
    (ws.foldl (fun a w => a.setIfInBounds w x) a).size = a.size := by
  induction ws generalizing a with
  | nil => rfl
  | cons w ws ih => simp [ih]

lemma foldl_set_getD {α} (ws : List Nat) (x d : α) (a : Array α) (v : Nat) :
    (ws.foldl (fun a w => a.setIfInBounds w x) a).getD v d =
      if v ∈ ws ∧ v < a.size then x else a.getD v d := by
  induction ws generalizing a with
  | nil => simp
  | cons w ws ih =>
    rw [List.foldl_cons, ih, getD_setIfInBounds, Array.size_setIfInBounds]
    simp only [List.mem_cons, or_and_right, ite_or]
    split_ifs <;> rfl

/-! ## R1: rounds of `expand` decide `Path` -/

/-- one round marks the successors of all marked nodes: a single fold over their out-lists -/
lemma expand_eq (g : G) (s : Array Bool) : expand g s =
    (((List.range g.size).filter (s.getD · false)).flatMap (out g)).foldl
      (fun a w => a.setIfInBounds w true) s := by
  rw [List.foldl_flatMap, List.foldl_filter]; rfl

lemma expand_size (g : G) (s : Array Bool) : (expand g s).size = s.size := by
  rw [expand_eq, foldl_set_size]

lemma expand_getD (g : G) (s : Array Bool) (v : Nat) :
    (expand g s).getD v false = true ↔
      s.getD v false = true ∨ (v < s.size ∧ ∃ u, u < g.size ∧ s.getD u false = true ∧ v ∈ out g u) := by
  rw [expand_eq, foldl_set_getD]
  simp only [List.mem_flatMap, List.mem_filter, List.mem_range, and_assoc]
  split_ifs with h
  · exact iff_of_true rfl (Or.inr ⟨h.2, h.1⟩)
  · exact (or_iff_left fun h' => h ⟨h'.2, h'.1⟩).symm

lemma iter_succ' {α} (f : α → α) (n : Nat) (a : α) : iter f (n + 1) a = f (iter f n a) := by
  induction n generalizing a with
  | zero => rfl
  | succ n ih => show iter f (n + 1) (f a) = _; rw [ih]; rfl

lemma iter_expand_size (g : G) (k : Nat) (s : Array Bool) : (iter (expand g) k s).size = s.size := by
  induction k with
  | zero => rfl
  | succ k ih => rw [iter_succ', expand_size, ih]

lemma iter_expand_mono_le (g : G) (j k : Nat) (hjk : j ≤ k) (s : Array Bool) (v : Nat)
    (h : (iter (expand g) j s).getD v false = true) :
    (iter (expand g) k s).getD v false = true := by
  induction k, hjk using Nat.le_induction with
  | base => exact h
  | succ k _ ih => rw [iter_succ', expand_getD]; exact Or.inl ih

/-- the start set `{u}` -/
def start (g : G) (u : Nat) : Array Bool := (Array.replicate g.size false).setIfInBounds u true

lemma start_getD (g : G) (u v : Nat) (hu : u < g.size) : (start g u).getD v false = true ↔ v = u := by
  rw [start, getD_setIfInBounds_of_lt _ _ _ _ (by rwa [Array.size_replicate]), getD_replicate]
  constructor
  · intro h; split_ifs at h with h'; exact h'
  · rintro rfl; rw [if_pos rfl]

lemma start_size (g : G) (u : Nat) : (start g u).size = g.size := by simp [start]

/-- soundness of rounds: everything marked is reachable -/
lemma iter_sound (g : G) (u : Nat) (k : Nat) (s : Array Bool)
    (hs : ∀ v, s.getD v false = true → Path g u v) :
    ∀ v, (iter (expand g) k s).getD v false = true → Path g u v := by
  induction k with
  | zero => exact hs
  | succ k ih =>
    intro v hv
    rw [iter_succ', expand_getD] at hv
    rcases hv with hv | ⟨_, w, hw, hm, hvw⟩
    · exact ih v hv
    · exact Relation.ReflTransGen.tail (ih w hm) ⟨hw, hvw⟩

def Closed (g : G) (s : Array Bool) : Prop :=
  ∀ a, a < g.size → s.getD a false = true → ∀ b ∈ out g a, s.getD b false = true

lemma closed_path (g : G) (s : Array Bool) (hc : Closed g s) (u v : Nat)
    (hu : s.getD u false = true) (hp : Path g u v) : s.getD v false = true := by
  induction hp with
  | refl => exact hu
  | tail _ hbc ih => exact hc _ hbc.1 ih _ hbc.2

/-! counting the numbers below `n` with a property: the termination measure of every closure here -/
section count
variable {n : Nat} {p q : Nat → Prop} [DecidablePred p] [DecidablePred q]

lemma count_le : ((Finset.range n).filter p).card ≤ n :=
  (Finset.card_filter_le _ _).trans_eq (Finset.card_range n)

lemma count_mono (h : ∀ x, p x → q x) :
    ((Finset.range n).filter p).card ≤ ((Finset.range n).filter q).card :=
  Finset.card_le_card (Finset.monotone_filter_right _ fun x _ => h x)

lemma count_lt (h : ∀ x, p x → q x) {v : Nat} (hv : v < n) (hq : q v) (hp : ¬ p v) :
    ((Finset.range n).filter p).card < ((Finset.range n).filter q).card :=
  Finset.card_lt_card ((Finset.ssubset_iff_of_subset (Finset.monotone_filter_right _ fun x _ => h x)).2
    ⟨v, Finset.mem_filter.2 ⟨Finset.mem_range.2 hv, hq⟩, fun hm => hp (Finset.mem_filter.1 hm).2⟩)

end count

def marked (g : G) (s : Array Bool) : Nat :=
  ((Finset.range g.size).filter fun v => s.getD v false = true).card

lemma marked_expand_lt (g : G) (hwf : WF g) (s : Array Bool) (hsz : s.size = g.size) (hc : ¬ Closed g s) :
    marked g s < marked g (expand g s) := by
  unfold Closed at hc
  push Not at hc
  obtain ⟨a, ha, hm, b, hb, hnb⟩ := hc
  refine count_lt (fun v hv => (expand_getD g s v).2 (Or.inl hv)) (hwf a ha b hb) ?_ hnb
  exact (expand_getD g s b).2 (Or.inr ⟨hsz ▸ hwf a ha b hb, a, ha, hm, hb⟩)

lemma iter_closed_or_marked (g : G) (hwf : WF g) (s : Array Bool) (hsz : s.size = g.size) (k : Nat) :
    (∃ j ≤ k, Closed g (iter (expand g) j s)) ∨ marked g s + k ≤ marked g (iter (expand g) k s) := by
  induction k with
  | zero => right; simp [iter]
  | succ k ih =>
    rcases ih with ⟨j, hj, hc⟩ | h
    · exact Or.inl ⟨j, by omega, hc⟩
    · by_cases hc : Closed g (iter (expand g) k s)
      · exact Or.inl ⟨k, by omega, hc⟩
      · right
        rw [iter_succ']
        have := marked_expand_lt g hwf _ (by rw [iter_expand_size, hsz]) hc
        omega

lemma reachSet_eq (g : G) (u : Nat) : reachSet g u = iter (expand g) g.size (start g u) := rfl

/-- **R1.** The executable closure (`g.size` rounds of successor expansion from `{u}`)
decides path reachability: `reachB g u v` is true exactly when there is a path
(reflexive-transitive closure of the edge relation) from `u` to `v`. -/
theorem reachB_iff_path (g : G) (hwf : WF g) (u v : Nat) (hu : u < g.size) :
    reachB g u v = true ↔ Path g u v := by
  unfold reachB
  rw [reachSet_eq]
  constructor
  · apply iter_sound
    intro w hw
    rw [start_getD g u w hu] at hw
    subst hw; exact Relation.ReflTransGen.refl
  · intro hp
    have huu : (start g u).getD u false = true := (start_getD g u u hu).2 rfl
    rcases iter_closed_or_marked g hwf (start g u) (start_size g u) g.size with ⟨j, hj, hc⟩ | h
    · apply iter_expand_mono_le g j g.size hj
      exact closed_path g _ hc u v (iter_expand_mono_le g 0 j (Nat.zero_le j) _ u huu) hp
    · exfalso
      have h1 : 0 < marked g (start g u) :=
        Finset.card_pos.2 ⟨u, Finset.mem_filter.2 ⟨Finset.mem_range.2 hu, huu⟩⟩
      have h2 : marked g (iter (expand g) g.size (start g u)) ≤ g.size := count_le
      omega

example : reachB #[[1], [2], [0, 3], [], [3]] 0 3 = true ↔ Path #[[1], [2], [0, 3], [], [3]] 0 3 :=
  reachB_iff_path _ (by decide) 0 3 (by decide)

example : WF #[[1], [2], [0, 3], [], [3]] := by decide
/-- the hypothesis `WF g` cannot be dropped: a dangling successor id is a `Path` target
but is never marked -/
example : ¬ WF #[[5]] ∧ reachB #[[5]] 0 5 = false ∧ Path #[[5]] 0 5 :=
  ⟨by decide, by decide, Relation.ReflTransGen.single ⟨by decide, by decide⟩⟩
example : ¬ Path #[[1], [2], [0, 3], [], [3]] 0 4 := by
  rw [← reachB_iff_path _ (by decide) 0 4 (by decide)]; decide

/-! ## R2: the SCC checker -/

/-- one outer-loop step of the component-map construction of `holdsSCC` -/
def cmStep (s : Array Nat × Nat) (c : List Nat) : Array Nat × Nat :=
  (c.foldl (fun a v => a.setIfInBounds v s.2) s.1, s.2 + 1)

/-- the component map that `holdsSCC` derives from the component list -/
def compMap (n : Nat) (comps : List (List Nat)) : Array Nat :=
  (comps.foldl cmStep (Array.replicate n 0, 0)).1

/-- the `do` block of `holdsSCC`, as written there, is `compMap` -/
lemma holdsSCC_do_eq_compMap (n : Nat) (comps : List (List Nat)) : (Id.run do
    let mut a := Array.replicate n 0
    let mut ci := 0
    for c in comps do
      for v in c do
        a := a.setIfInBounds v ci
      ci := ci + 1
    return a) = compMap n comps := by
  unfold compMap
  simp [List.forIn_pure_yield_eq_foldl]
  rfl

lemma reachAll_getD (g : G) (u : Nat) (hu : u < g.size) : (reachAll g).getD u #[] = reachSet g u := by
  unfold reachAll
  simp [Array.getD_eq_getD_getElem?, hu]

lemma ite_some_eq_none {α} {c : Prop} [Decidable c] {a : α} {x : Option α} :
    (if c then some a else x) = none ↔ ¬ c ∧ x = none := by
  split <;> simp [*]

lemma beq_beq_and {x y : Nat} {a b : Bool} :
    ((x == y) == (a && b)) = true ↔ (x = y ↔ a = true ∧ b = true) := by
  rw [beq_iff_eq, Bool.eq_iff_iff, beq_iff_eq, Bool.and_eq_true]

/-- the checker accepts exactly when each of its clauses holds; `holdsSCC` is a chain of
`if failed then some name else …`, peeled clause by clause with `ite_some_eq_none` -/
lemma holdsSCC_eq_none (g : G) (r : SCCRes) : holdsSCC g r = none ↔
  sortNat r.comps.flatten = List.range g.size ∧ (∀ c ∈ r.comps, c ≠ []) ∧ 
  (∀ m, r.compOf = some m → m = (compMap g.size r.comps).toList) ∧
  (∀ u < g.size, ∀ v < g.size, ((compMap g.size r.comps).getD u 0 = (compMap g.size r.comps).getD v 0) ↔ (reachB g u v = true ∧ reachB g v u = true)) ∧
  (∀ u < g.size, ∀ v ∈ out g u, (compMap g.size r.comps).getD v 0 ≤ (compMap g.size r.comps).getD u 0) ∧
  (∀ outs, r.outs = some outs → outs.length = r.comps.length ∧ ∀ c < outs.length, outs.getD c [] = 
     dedupSorted (sortNat (((r.comps.getD c []).flatMap fun u => (out g u).map fun v => (compMap g.size r.comps).getD v 0).filter (· != c)))) := by
  unfold holdsSCC
  simp only [holdsSCC_do_eq_compMap]
  rw [ite_some_eq_none, ite_some_eq_none, ite_some_eq_none, ite_some_eq_none, ite_some_eq_none]
  refine and_congr ?_ (and_congr ?_ (and_congr ?_ (and_congr ?_ (and_congr ?_ ?_))))
  · rw [bne_iff_ne, not_not]
  · simp only [List.any_eq_true, List.isEmpty_iff, not_exists, not_and]
  · cases r.compOf <;> simp
  · simp only [Bool.not_eq_true', Bool.not_eq_false, List.all_eq_true, List.mem_range, beq_beq_and]
    refine forall₂_congr fun u hu => forall₂_congr fun v hv => ?_
    rw [reachAll_getD g u hu, reachAll_getD g v hv]
    rfl
  · simp only [Bool.not_eq_true', Bool.not_eq_false, List.all_eq_true, List.mem_range, decide_eq_true_eq]
  · cases r.outs with
    | none => simp
    | some outs =>
      simp only [Option.some.injEq, forall_eq', ite_some_eq_none]
      rw [bne_iff_ne, not_not]
      simp [List.all_eq_true]

/-! ### sorting helpers -/

lemma insertSorted_eq (x : Nat) (l : List Nat) : insertSorted x l = l.orderedInsert (· ≤ ·) x := by
  induction l with
  | nil => rfl
  | cons y r ih => simp only [insertSorted, List.orderedInsert_cons, ih]

lemma sortNat_aux (l acc : List Nat) :
    (l.foldl (fun acc x => insertSorted x acc) acc).Perm (l ++ acc) ∧
    (acc.Pairwise (· ≤ ·) → (l.foldl (fun acc x => insertSorted x acc) acc).Pairwise (· ≤ ·)) := by
  induction l generalizing acc with
  | nil => simp
  | cons x l ih =>
    simp only [List.foldl_cons]
    obtain ⟨h1, h2⟩ := ih (insertSorted x acc)
    constructor
    · refine h1.trans ?_
      rw [insertSorted_eq]
      have := List.perm_orderedInsert (· ≤ ·) x acc
      refine (List.Perm.append_left l this).trans ?_
      simp [List.perm_middle]
    · intro hacc
      apply h2
      rw [insertSorted_eq]
      exact hacc.orderedInsert x acc

/-- `sortNat l` is a rearrangement of `l` (same elements with the same multiplicities). -/
theorem sortNat_perm (l : List Nat) : (sortNat l).Perm l := by
  have := (sortNat_aux l []).1
  simpa [sortNat] using this

/-- `sortNat l` is in non-decreasing order. -/
theorem sortNat_sorted (l : List Nat) : (sortNat l).Pairwise (· ≤ ·) :=
  (sortNat_aux l []).2 List.Pairwise.nil

lemma sortNat_eq_of_perm {l l' : List Nat} (hp : l.Perm l') (hs : l'.Pairwise (· ≤ ·)) :
    sortNat l = l' :=
  ((sortNat_perm l).trans hp).eq_of_pairwise (fun _ _ _ _ h1 h2 => le_antisymm h1 h2)
    (sortNat_sorted l) hs

lemma mem_sortNat (l : List Nat) (x : Nat) : x ∈ sortNat l ↔ x ∈ l := (sortNat_perm l).mem_iff

lemma mem_dedupSorted (l : List Nat) (x : Nat) : x ∈ dedupSorted l ↔ x ∈ l := by
  induction l using dedupSorted.induct with
  | case1 => simp [dedupSorted]
  | case2 y => simp [dedupSorted]
  | case3 a b r hab ih =>
    rw [dedupSorted, if_pos hab, ih]
    simp only [beq_iff_eq] at hab
    subst hab; simp
  | case4 a b r hab ih =>
    rw [dedupSorted, if_neg hab]
    simp only [List.mem_cons] at ih ⊢
    rw [ih]

lemma dedupSorted_sorted (l : List Nat) (h : l.Pairwise (· ≤ ·)) : (dedupSorted l).Pairwise (· < ·) := by
  induction l using dedupSorted.induct with
  | case1 => simp [dedupSorted]
  | case2 y => simp [dedupSorted]
  | case3 a b r hab ih =>
    rw [dedupSorted, if_pos hab]
    exact ih (List.Pairwise.of_cons h)
  | case4 a b r hab ih =>
    rw [dedupSorted, if_neg hab]
    simp only [beq_iff_eq] at hab
    rw [List.pairwise_cons]
    refine ⟨?_, ih (List.Pairwise.of_cons h)⟩
    intro z hz
    rw [mem_dedupSorted] at hz
    rw [List.pairwise_cons] at h
    have h1 := h.1 b (by simp)
    have h2 : b ≤ z := by
      rcases List.mem_cons.1 hz with rfl | hz'
      · exact le_rfl
      · exact (List.pairwise_cons.1 h.2).1 z hz'
    omega

/-- the members of a component's out-list as the checker computes it (`f` numbers the components) -/
lemma mem_outList (g : G) (f : Nat → Nat) (cs : List Nat) (c d : Nat) :
    d ∈ dedupSorted (sortNat ((cs.flatMap fun u => (out g u).map f).filter (· != c))) ↔
      d ≠ c ∧ ∃ u ∈ cs, ∃ v ∈ out g u, f v = d := by
  rw [mem_dedupSorted, mem_sortNat, List.mem_filter, List.mem_flatMap]
  simp only [List.mem_map, bne_iff_ne, ne_eq]
  exact ⟨fun ⟨⟨u, hu, v, hv, e⟩, hne⟩ => ⟨hne, u, hu, v, hv, e⟩,
    fun ⟨hne, u, hu, v, hv, e⟩ => ⟨⟨u, hu, v, hv, e⟩, hne⟩⟩

/-! ### the derived component map -/

lemma compMap_size (n : Nat) (comps : List (List Nat)) : (compMap n comps).size = n := by
  have h : ∀ s : Array Nat × Nat, (comps.foldl cmStep s).1.size = s.1.size := by
    induction comps with
    | nil => intro s; rfl
    | cons c cs ih => intro s; rw [List.foldl_cons, ih, cmStep, foldl_set_size]
  rw [compMap, h, Array.size_replicate]

lemma toList_eq_map_getD {α} (a : Array α) (d : α) :
    a.toList = (List.range a.size).map (a.getD · d) := by
  apply List.ext_getElem
  · simp
  · intro i h1 h2
    have hi : i < a.size := by simpa using h1
    simp [Array.getD_eq_getD_getElem?, hi]

lemma foldl_cmStep_getD (comps : List (List Nat)) (hd : comps.Pairwise List.Disjoint) (s : Array Nat × Nat) :
    (comps.foldl cmStep s).1.size = s.1.size ∧ ∀ v < s.1.size,
      (∀ j, v ∈ comps.getD j [] → (comps.foldl cmStep s).1.getD v 0 = s.2 + j) ∧
      (v ∉ comps.flatten → (comps.foldl cmStep s).1.getD v 0 = s.1.getD v 0) := by
  induction comps generalizing s with
  | nil => simp
  | cons c cs ih =>
    rw [List.pairwise_cons] at hd
    obtain ⟨h1, h2⟩ := ih hd.2 (cmStep s c)
    have hsz : (cmStep s c).1.size = s.1.size := foldl_set_size _ _ _
    simp only [List.foldl_cons]
    refine ⟨by rw [h1, hsz], ?_⟩
    intro v hv
    obtain ⟨h3, h4⟩ := h2 v (by rw [hsz]; exact hv)
    constructor
    · intro j hj
      cases j with
      | zero =>
        simp only [List.getD_cons_zero] at hj
        have hnot : v ∉ cs.flatten := by
          intro hm
          obtain ⟨c', hc', hvc'⟩ := List.mem_flatten.1 hm
          exact hd.1 c' hc' hj hvc'
        rw [h4 hnot]
        simp only [cmStep, foldl_set_getD, hj, hv, and_self, if_true, Nat.add_zero]
      | succ j =>
        simp only [List.getD_cons_succ] at hj
        rw [h3 j hj]
        simp only [cmStep]; omega
    · intro hnot
      simp only [List.flatten_cons, List.mem_append, not_or] at hnot
      rw [h4 hnot.2]
      simp only [cmStep, foldl_set_getD, hnot.1, false_and, if_false]

/-- index of the (first) component of `r.comps` containing `v` -/
def compIdx (r : SCCRes) (v : Nat) : Nat := r.comps.findIdx (fun c => decide (v ∈ c))

lemma getD_of_lt {α} {l : List α} {i : Nat} (d : α) (h : i < l.length) : l.getD i d = l[i] := by
  rw [List.getD_eq_getElem?_getD, List.getElem?_eq_getElem h, Option.getD_some]

/-- the element in front of a suffix of length `k` is entry `k` of the reversed list -/
lemma reverse_getD_length {α} (l1 : List α) (a : α) (l2 : List α) (d : α) :
    (l1 ++ a :: l2).reverse.getD l2.length d = a := by
  simp [List.getD_eq_getElem?_getD]

lemma getD_reverse {α} (l : List α) {k : Nat} (hk : k < l.length) (d : α) :
    l.reverse.getD k d = l.getD (l.length - 1 - k) d := by
  rw [List.getD_eq_getElem?_getD, List.getD_eq_getElem?_getD, List.getElem?_reverse hk]

/-- entry `k` of the reversed list splits the list, with `k` elements behind it -/
lemma split_reverse_getD {α} (l : List α) {k : Nat} (hk : k < l.length) (d : α) :
    ∃ l1 l2, l = l1 ++ l.reverse.getD k d :: l2 ∧ l2.length = k := by
  have hi : l.length - 1 - k < l.length := by omega
  refine ⟨l.take (l.length - 1 - k), l.drop (l.length - 1 - k + 1), ?_, by simp; omega⟩
  rw [getD_reverse l hk, getD_of_lt d hi]
  simp

lemma lt_of_mem_getD {α} {l : List (List α)} {i : Nat} {v : α} (h : v ∈ l.getD i []) :
    i < l.length := by
  by_contra hge
  rw [List.getD_eq_getElem?_getD, List.getElem?_eq_none (not_lt.1 hge)] at h
  exact List.not_mem_nil h

lemma getD_mem {α} {l : List (List α)} {i : Nat} {v : α} (h : v ∈ l.getD i []) :
    l.getD i [] ∈ l := by
  rw [getD_of_lt _ (lt_of_mem_getD h)]
  exact List.getElem_mem _

lemma mem_flatten_of_getD {α} {comps : List (List α)} {i : Nat} {v : α} (h : v ∈ comps.getD i []) :
    v ∈ comps.flatten :=
  List.mem_flatten.2 ⟨_, getD_mem h, h⟩

/-- in a partition of `0..n-1` into lists, `findIdx` names the one list that holds `v` -/
lemma findIdx_partition (comps : List (List Nat)) {n : Nat} (hp : comps.flatten.Perm (List.range n))
    (v : Nat) (hv : v < n) :
    comps.findIdx (fun c => decide (v ∈ c)) < comps.length ∧
      ∀ i, v ∈ comps.getD i [] ↔ i = comps.findIdx (fun c => decide (v ∈ c)) := by
  obtain ⟨c, hc, hvc⟩ := List.mem_flatten.1 (hp.mem_iff.2 (List.mem_range.2 hv))
  have hlt : comps.findIdx (fun c => decide (v ∈ c)) < comps.length :=
    List.findIdx_lt_length_of_exists ⟨c, hc, decide_eq_true hvc⟩
  have hk : v ∈ comps[comps.findIdx (fun c => decide (v ∈ c))] :=
    of_decide_eq_true (List.findIdx_getElem (w := hlt))
  refine ⟨hlt, fun i => ⟨fun hi => ?_, ?_⟩⟩
  · have hilt := lt_of_mem_getD hi
    rw [getD_of_lt _ hilt] at hi
    by_contra hne
    have hdis := List.pairwise_iff_getElem.1
      (List.nodup_flatten.1 (hp.nodup_iff.2 List.nodup_range)).2
    rcases lt_or_gt_of_ne hne with hl | hl
    · exact hdis _ _ hilt hlt hl hi hk
    · exact hdis _ _ hlt hilt hl hk hi
  · rintro rfl
    rw [getD_of_lt _ hlt]
    exact hk

lemma flatten_perm_of_sort {comps : List (List Nat)} {n : Nat}
    (h : sortNat comps.flatten = List.range n) : comps.flatten.Perm (List.range n) := by
  rw [← h]; exact (sortNat_perm _).symm

lemma compMap_getD_eq_compIdx (g : G) (r : SCCRes)
    (h : sortNat r.comps.flatten = List.range g.size) (v : Nat) (hv : v < g.size) :
    (compMap g.size r.comps).getD v 0 = compIdx r v := by
  have hp := flatten_perm_of_sort h
  have := (foldl_cmStep_getD r.comps (List.nodup_flatten.1 (hp.nodup_iff.2 List.nodup_range)).2
    (Array.replicate g.size 0, 0)).2 v (by simpa using hv)
  rw [compMap, this.1 (compIdx r v) (((findIdx_partition r.comps hp v hv).2 _).2 rfl)]
  simp

/-! ### property theorems for the SCC checker -/

/-- **R2(a).** If the checker accepts (`holdsSCC g r = none`) then the components
partition the node set: the concatenation of `r.comps` is a permutation of
`0..n-1`, no component is empty, and every node `v < n` lies in exactly one
component, namely the one with index `compIdx r v`. -/
theorem holdsSCC_partition (g : G) (r : SCCRes) (h : holdsSCC g r = none) :
    r.comps.flatten.Perm (List.range g.size) ∧ (∀ c ∈ r.comps, c ≠ []) ∧
    ∀ v < g.size, compIdx r v < r.comps.length ∧
      ∀ i, v ∈ r.comps.getD i [] ↔ i = compIdx r v := by
  obtain ⟨h1, h2, -⟩ := (holdsSCC_eq_none g r).1 h
  exact ⟨flatten_perm_of_sort h1, h2, findIdx_partition r.comps (flatten_perm_of_sort h1)⟩

/-- **R2(b).** If the checker accepts then two nodes have the same component
index exactly when they are mutually reachable by paths of `g`. -/
theorem holdsSCC_mutual (g : G) (hwf : WF g) (r : SCCRes) (h : holdsSCC g r = none)
    (u v : Nat) (hu : u < g.size) (hv : v < g.size) :
    compIdx r u = compIdx r v ↔ (Path g u v ∧ Path g v u) := by
  obtain ⟨h1, -, -, h4, -⟩ := (holdsSCC_eq_none g r).1 h
  rw [← compMap_getD_eq_compIdx g r h1 u hu, ← compMap_getD_eq_compIdx g r h1 v hv, h4 u hu v hv,
    reachB_iff_path g hwf u v hu, reachB_iff_path g hwf v u hv]

/-- **R2(b), list form.** If the checker accepts then two nodes occur together in
some component list of `r.comps` exactly when they are mutually reachable. -/
theorem holdsSCC_mutual_mem (g : G) (hwf : WF g) (r : SCCRes) (h : holdsSCC g r = none)
    (u v : Nat) (hu : u < g.size) (hv : v < g.size) :
    (∃ c ∈ r.comps, u ∈ c ∧ v ∈ c) ↔ (Path g u v ∧ Path g v u) := by
  rw [← holdsSCC_mutual g hwf r h u v hu hv]
  obtain ⟨-, -, hpart⟩ := holdsSCC_partition g r h
  constructor
  · rintro ⟨c, hc, huc, hvc⟩
    obtain ⟨i, hi, rfl⟩ := List.getElem_of_mem hc
    rw [← getD_of_lt [] hi] at huc hvc
    rw [← ((hpart u hu).2 i).1 huc, ← ((hpart v hv).2 i).1 hvc]
  · intro e
    have hu' := ((hpart u hu).2 _).2 rfl
    exact ⟨_, getD_mem hu', hu', ((hpart v hv).2 _).2 e⟩

/-- **R2(c).** If the checker accepts then component indices are a reverse
topological numbering: for every edge `u → v`, the index of `v`'s component is
at most the index of `u`'s component. -/
theorem holdsSCC_topo (g : G) (hwf : WF g) (r : SCCRes) (h : holdsSCC g r = none)
    (u v : Nat) (he : Edge g u v) : compIdx r v ≤ compIdx r u := by
  obtain ⟨h1, -, -, -, h5, -⟩ := (holdsSCC_eq_none g r).1 h
  rw [← compMap_getD_eq_compIdx g r h1 u he.1, ← compMap_getD_eq_compIdx g r h1 v (hwf u he.1 v he.2)]
  exact h5 u he.1 v he.2

/-- **R2(d).** If the checker accepts and component out-lists are given
(`r.outs = some outs`) then there is one out-list per component and, for every
component index `c`, `outs[c]` is strictly increasing (sorted, duplicate-free) and
contains exactly the component indices `d ≠ c` entered by some edge `u → v`
with `u` in component `c` and `v` in component `d`. -/
theorem holdsSCC_edges (g : G) (hwf : WF g) (r : SCCRes) (h : holdsSCC g r = none)
    (outs : List (List Nat)) (ho : r.outs = some outs) :
    outs.length = r.comps.length ∧ ∀ c < r.comps.length,
      (outs.getD c []).Pairwise (· < ·) ∧
      ∀ d, d ∈ outs.getD c [] ↔
        (d ≠ c ∧ ∃ u ∈ r.comps.getD c [], ∃ v ∈ out g u, compIdx r v = d) := by
  obtain ⟨h1, -, -, -, -, h6⟩ := (holdsSCC_eq_none g r).1 h
  obtain ⟨hlen, hout⟩ := h6 outs ho
  have hp := flatten_perm_of_sort h1
  refine ⟨hlen, ?_⟩
  intro c hc
  rw [hout c (hlen ▸ hc)]
  refine ⟨dedupSorted_sorted _ (sortNat_sorted _), fun d => ?_⟩
  rw [mem_outList]
  refine and_congr_right fun _ => exists_congr fun u => and_congr_right fun hu =>
    exists_congr fun v => and_congr_right fun hv => ?_
  have hun : u < g.size := List.mem_range.1 (hp.mem_iff.1 (mem_flatten_of_getD hu))
  rw [compMap_getD_eq_compIdx g r h1 v (hwf u hun v hv)]

/-- **R2, component map.** If the checker accepts and a node→component map is
given (`r.compOf = some m`) then `m` lists `compIdx r v` for `v = 0..n-1`. -/
theorem holdsSCC_compOf (g : G) (r : SCCRes) (h : holdsSCC g r = none)
    (m : List Nat) (hm : r.compOf = some m) : m = (List.range g.size).map (compIdx r) := by
  obtain ⟨h1, -, h3, -⟩ := (holdsSCC_eq_none g r).1 h
  rw [h3 m hm, toList_eq_map_getD _ 0, compMap_size]
  exact List.map_congr_left fun i hi => compMap_getD_eq_compIdx g r h1 i (List.mem_range.1 hi)

/-- the example graph `0→1→2→0`, `2→3`, `4→3` and its (accepted) SCC result -/
def exG : G := #[[1], [2], [0, 3], [], [3]]
def exR : SCCRes := ⟨[[3], [0, 1, 2], [4]], some [1, 1, 1, 0, 2], some [[], [0], [0]]⟩

lemma exOK : holdsSCC exG exR = none := by decide +kernel

example : holdsSCC exG exR = none := exOK
example : WF exG := by decide
example : compIdx exR 0 = compIdx exR 2 ↔ (Path exG 0 2 ∧ Path exG 2 0) :=
  holdsSCC_mutual exG (by decide) exR exOK 0 2 (by decide) (by decide)
example : compIdx exR 3 ≤ compIdx exR 2 :=
  holdsSCC_topo exG (by decide) exR exOK 2 3 (by decide)
example := holdsSCC_partition exG exR exOK
example := holdsSCC_edges exG (by decide) exR exOK _ rfl
example := holdsSCC_compOf exG exR exOK _ rfl
example := holdsSCC_mutual_mem exG (by decide) exR exOK 0 3 (by decide) (by decide)

/-! ## R3: the definitional SCC partition -/

-- the local definitions `reach`, `rep`, `reps`, `key` and the insertion step of `sccSpec`, named
def reachT (g : G) (u v : Nat) : Bool := ((reachAll g).getD u #[]).getD v false
def sccRep (g : G) (u : Nat) : Nat := ((List.range g.size).find? fun v => reachT g u v && reachT g v u).getD u
def sccReps (g : G) : List Nat := (List.range g.size).filter fun u => sccRep g u == u
def sccKey (g : G) (r : Nat) : Nat := ((sccReps g).filter fun s => reachT g r s).length
def sccInsKey (g : G) (acc : List Nat) (r : Nat) : List Nat :=
  let (a, b) := acc.span (fun s => sccKey g s ≤ sccKey g r); a ++ [r] ++ b

lemma sccSpec_eq (g : G) : sccSpec g =
    ((sccReps g).foldl (sccInsKey g) []).map fun r => (List.range g.size).filter fun u => sccRep g u == r := rfl

lemma sccInsKey_perm (g : G) (acc : List Nat) (r : Nat) : (sccInsKey g acc r).Perm (r :: acc) := by
  unfold sccInsKey
  simp only [List.span_eq_takeWhile_dropWhile]
  simp only [List.append_assoc, List.singleton_append]
  refine List.perm_middle.trans ?_
  rw [List.takeWhile_append_dropWhile]

lemma foldl_sccInsKey_perm (g : G) (l acc : List Nat) : (l.foldl (sccInsKey g) acc).Perm (l ++ acc) := by
  induction l generalizing acc with
  | nil => simp
  | cons x l ih =>
    simp only [List.foldl_cons]
    refine (ih _).trans ?_
    refine (List.Perm.append_left l (sccInsKey_perm g acc x)).trans ?_
    simp [List.perm_middle]

lemma mem_sccSpec (g : G) (c : List Nat) :
    c ∈ sccSpec g ↔ ∃ r ∈ sccReps g, c = (List.range g.size).filter fun u => sccRep g u == r := by
  rw [sccSpec_eq, List.mem_map]
  have hp := foldl_sccInsKey_perm g (sccReps g) []
  simp only [List.append_nil] at hp
  constructor
  · rintro ⟨r, hr, rfl⟩; exact ⟨r, hp.mem_iff.1 hr, rfl⟩
  · rintro ⟨r, hr, rfl⟩; exact ⟨r, hp.mem_iff.2 hr, rfl⟩

lemma reachT_eq (g : G) (u v : Nat) (hu : u < g.size) : reachT g u v = reachB g u v := by
  unfold reachT reachB; rw [reachAll_getD g u hu]

def Mut (g : G) (u v : Nat) : Prop := Path g u v ∧ Path g v u

lemma Mut.symm {g : G} {u v : Nat} (h : Mut g u v) : Mut g v u := ⟨h.2, h.1⟩
lemma Mut.trans {g : G} {u v w : Nat} (h : Mut g u v) (h' : Mut g v w) : Mut g u w :=
  ⟨Relation.ReflTransGen.trans h.1 h'.1, Relation.ReflTransGen.trans h'.2 h.2⟩
lemma Mut.refl (g : G) (u : Nat) : Mut g u u := ⟨Relation.ReflTransGen.refl, Relation.ReflTransGen.refl⟩

lemma mutB_iff (g : G) (hwf : WF g) (u w : Nat) (hu : u < g.size) (hw : w < g.size) :
    (reachT g u w && reachT g w u) = true ↔ Mut g u w := by
  rw [reachT_eq g u w hu, reachT_eq g w u hw, Bool.and_eq_true,
    reachB_iff_path g hwf u w hu, reachB_iff_path g hwf w u hw]
  rfl

lemma sccRep_find (g : G) (hwf : WF g) (u : Nat) (hu : u < g.size) :
    ∃ w, (List.range g.size).find? (fun v => reachT g u v && reachT g v u) = some w ∧
      w < g.size ∧ Mut g u w := by
  cases h : (List.range g.size).find? fun v => reachT g u v && reachT g v u with
  | none =>
    exact absurd ((mutB_iff g hwf u u hu hu).2 (Mut.refl g u))
      (List.find?_eq_none.1 h u (List.mem_range.2 hu))
  | some w =>
    have hw : w < g.size := List.mem_range.1 (List.mem_of_find?_eq_some h)
    exact ⟨w, rfl, hw, (mutB_iff g hwf u w hu hw).1
      (List.find?_some (p := fun v => reachT g u v && reachT g v u) h)⟩

lemma sccRep_spec (g : G) (hwf : WF g) (u : Nat) (hu : u < g.size) :
    sccRep g u < g.size ∧ Mut g u (sccRep g u) := by
  obtain ⟨w, e, hw, hm⟩ := sccRep_find g hwf u hu
  rw [sccRep, e]
  exact ⟨hw, hm⟩

lemma sccRep_congr (g : G) (hwf : WF g) (u v : Nat) (hu : u < g.size) (hv : v < g.size)
    (h : Mut g u v) : sccRep g u = sccRep g v := by
  have hc : (List.range g.size).find? (fun w => reachT g u w && reachT g w u) =
      (List.range g.size).find? (fun w => reachT g v w && reachT g w v) := by
    apply List.find?_congr
    intro w hw
    have hw' := List.mem_range.1 hw
    rw [Bool.eq_iff_iff, mutB_iff g hwf u w hu hw', mutB_iff g hwf v w hv hw']
    exact ⟨fun h' => h.symm.trans h', fun h' => h.trans h'⟩
  obtain ⟨w, e, -⟩ := sccRep_find g hwf u hu
  rw [sccRep, sccRep, ← hc, e]
  rfl

lemma sccRep_eq_iff (g : G) (hwf : WF g) (u v : Nat) (hu : u < g.size) (hv : v < g.size) :
    sccRep g u = sccRep g v ↔ Mut g u v := by
  constructor
  · intro e
    have h1 := (sccRep_spec g hwf u hu).2
    have h2 := (sccRep_spec g hwf v hv).2
    rw [← e] at h2
    exact h1.trans h2.symm
  · exact sccRep_congr g hwf u v hu hv

/-- **R3.** Two nodes occur together in some
list of the definitional partition `sccSpec g` exactly when they are mutually
reachable by paths of `g`. -/
theorem sccSpec_mutual (g : G) (hwf : WF g) (u v : Nat) (hu : u < g.size) (hv : v < g.size) :
    (∃ c ∈ sccSpec g, u ∈ c ∧ v ∈ c) ↔ (Path g u v ∧ Path g v u) := by
  show _ ↔ Mut g u v
  rw [← sccRep_eq_iff g hwf u v hu hv]
  constructor
  · rintro ⟨c, hc, huc, hvc⟩
    obtain ⟨r, -, rfl⟩ := (mem_sccSpec g c).1 hc
    simp only [List.mem_filter, List.mem_range, beq_iff_eq] at huc hvc
    rw [huc.2, hvc.2]
  · intro e
    obtain ⟨hr, hm⟩ := sccRep_spec g hwf u hu
    refine ⟨_, (mem_sccSpec g _).2 ⟨sccRep g u, ?_, rfl⟩, ?_, ?_⟩
    · simp only [sccReps, List.mem_filter, List.mem_range, beq_iff_eq]
      exact ⟨hr, (sccRep_congr g hwf u _ hu hr hm).symm⟩
    · simp [hu]
    · simp [hv, e]

/-- every node lies in some list of `sccSpec g` -/
theorem sccSpec_cover (g : G) (hwf : WF g) (u : Nat) (hu : u < g.size) : ∃ c ∈ sccSpec g, u ∈ c := by
  obtain ⟨c, hc, h, -⟩ := (sccSpec_mutual g hwf u u hu hu).2 (Mut.refl g u)
  exact ⟨c, hc, h⟩

example : (∃ c ∈ sccSpec exG, 0 ∈ c ∧ 2 ∈ c) ↔ (Path exG 0 2 ∧ Path exG 2 0) :=
  sccSpec_mutual exG (by decide) 0 2 (by decide) (by decide)
example : sccSpec exG = [[3], [0, 1, 2], [4]] := by decide +kernel

end MV.Graph
