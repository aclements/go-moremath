import MV.Props.FactsLib
/-!
`holdsAll`, entry by entry.  The `state_Cxx` obligations `holdsAll stateCxx = true` are discharged by
`holdsAll_cons rfl (holdsAll_cons rfl … holdsAll_nil)`: each `rfl` makes Lean evaluate `lookup k` on the
regenerated facts and compare the result with `some v`, where the two value *literals* are compared as
syntax.  Evaluating `lookup k == some v` instead runs `String.decEq` on the values, which UTF-8-encodes
both in the kernel at a cost quadratic in their length; the lists of package variables in `stateCxx`
are long.  (The values in `expectedCxx` are short, and `facts_Cxx` is evaluated as it stands.)
-/
namespace MV.Facts

theorem holdsAll_nil : holdsAll [] = true := rfl

theorem holdsAll_cons {k v : String} {es : List (String × String)} (h : lookup k = some v)
    (hs : holdsAll es = true) : holdsAll ((k, v) :: es) = true := by
  simp only [holdsAll, List.all_cons, Bool.and_eq_true] at hs ⊢
  exact ⟨by simp [h], hs⟩

end MV.Facts
