import MV.Props.C08BetaIdentity
import MV.Props.C08LogGamma
/-!
# C05 — the Student-t CDF reference `tCDFgen` at real `ν`, and `betaRegI` with its own `log B`

Chain: `lgammaI_sound` ⇒ `lbetaI_sound` ⇒ `betaRegI_encloses` (the C08 BetaInc reference with the
enclosure of `log B` it computes itself; it is here because it needs both `C08LogGamma` and
`C08BetaIdentity`) ⇒ `tCDFgen_encloses_beta` (the model encloses `tCDFviaBeta ν t`, the closed form
through the regularised incomplete beta function).

Real analysis, for the Student-t density
`f_ν(s) = Γ((ν+1)/2)/(√(νπ) Γ(ν/2)) · (1 + s²/ν)^(−(ν+1)/2)` (`tDensity`), real `ν > 0`:
* `tKernel_integral_eq_beta`: the substitution `u = ν/(ν+s²)`,
  `∫₀ᵗ (1+s²/ν)^(−(ν+1)/2) ds = (√ν/2) ∫_x^1 u^(ν/2−1)(1−u)^(−1/2) du`, `x = ν/(ν+t²)`;
* `studentT_cdf_eq_beta` (`t > 0`), `studentT_cdf_eq_beta_all` (all `t`):
  `1/2 + ∫₀ᵗ f_ν = tCDFviaBeta ν t`;
* `studentT_cdf`: `f_ν` is integrable on `(−∞,t]` and `∫_{−∞}^t f_ν = tCDFviaBeta ν t`;
* `tDensity_integral_eq_one`: `f_ν ≥ 0`, integrable, `∫_ℝ f_ν = 1`;
* `tCDFgen_encloses_cdf`: the model's interval contains `∫_{−∞}^t f_ν`.
-/
namespace MV.Special
open MV MV.I MeasureTheory Set intervalIntegral

/-- `lbetaI` encloses `log B(a,b)`.  For rationals `a, b > 0` such that the series enclosures of
`log Γ` exist at `a`, `b` and `a+b` (no Stirling fallback), the interval `lbetaI a b` contains
`log (Γ(a)Γ(b)/Γ(a+b))`. -/
theorem lbetaI_sound (a b : ℚ) (ha : 0 < a) (hb : 0 < b)
    (hsa : (lgammaS a).isSome) (hsb : (lgammaS b).isSome) (hsab : (lgammaS (a + b)).isSome) :
    Mem (Real.log (Real.Gamma (a : ℝ) * Real.Gamma (b : ℝ) / Real.Gamma ((a : ℝ) + (b : ℝ))))
      (lbetaI a b) := by
  have haR : (0 : ℝ) < (a : ℝ) := Rat.cast_pos.mpr ha
  have hbR : (0 : ℝ) < (b : ℝ) := Rat.cast_pos.mpr hb
  have h1 := lgammaI_sound a ha hsa
  have h2 := lgammaI_sound b hb hsb
  have h3 := lgammaI_sound (a + b) (by linarith) hsab
  rw [Rat.cast_add] at h3
  have h := sub_sound (add_sound h1 h2) h3
  unfold lbetaI
  convert h using 1
  rw [Real.log_div (mul_pos (Real.Gamma_pos_of_pos haR) (Real.Gamma_pos_of_pos hbR)).ne'
    (Real.Gamma_pos_of_pos (add_pos haR hbR)).ne',
    Real.log_mul (Real.Gamma_pos_of_pos haR).ne' (Real.Gamma_pos_of_pos hbR).ne']

/-! The series enclosure of `log Γ` exists at the arguments the examples below use (kernel
evaluation of the series loop, once per argument). -/

lemma lgammaS_isSome_half : (lgammaS (1 / 2)).isSome = true := by decide +kernel

lemma lgammaS_isSome_one : (lgammaS (1 / 2 + 1 / 2)).isSome = true := by decide +kernel

lemma lgammaS_isSome_five_quarters : (lgammaS (5 / 4)).isSome = true := by decide +kernel

lemma lgammaS_isSome_seven_quarters : (lgammaS (5 / 4 + 1 / 2)).isSome = true := by
  decide +kernel

lemma lgammaS_isSome_five_quarters' : (lgammaS (5 / 2 / 2)).isSome = true := by
  rw [show (5 / 2 / 2 : ℚ) = 5 / 4 by norm_num]
  exact lgammaS_isSome_five_quarters

lemma lgammaS_isSome_seven_quarters' : (lgammaS (5 / 2 / 2 + 1 / 2)).isSome = true := by
  rw [show (5 / 2 / 2 : ℚ) = 5 / 4 by norm_num]
  exact lgammaS_isSome_seven_quarters

example : Mem (Real.log (Real.Gamma (((5 / 4 : ℚ)) : ℝ) * Real.Gamma (((1 / 2 : ℚ)) : ℝ) /
    Real.Gamma ((((5 / 4 : ℚ)) : ℝ) + (((1 / 2 : ℚ)) : ℝ)))) (lbetaI (5 / 4) (1 / 2)) :=
  lbetaI_sound (5 / 4) (1 / 2) (by norm_num) (by norm_num) lgammaS_isSome_five_quarters
    lgammaS_isSome_half lgammaS_isSome_seven_quarters

/-- `betaRegI` encloses the regularised incomplete beta function.  For rationals `a, b > 0`
such that the series enclosures of `log Γ` exist at `a`, `b`, `a+b`, and rational `0 ≤ x ≤ 1`: any
interval returned by `betaRegI x a b` contains `I_x(a,b) = B_x(a,b)/B_1(a,b)`,
`B_x(a,b) = ∫₀ˣ t^(a−1)(1−t)^(b−1) dt` (`log B` is enclosed by `lbetaI_sound`). -/
theorem betaRegI_encloses (x a b : ℚ) (ha : 0 < a) (hb : 0 < b)
    (hsa : (lgammaS a).isSome) (hsb : (lgammaS b).isSome) (hsab : (lgammaS (a + b)).isSome)
    (hx0 : 0 ≤ x) (hx1 : x ≤ 1) (r : I) (h : betaRegI x a b = some r) :
    Mem (incBeta (a : ℝ) (b : ℝ) (x : ℝ) / incBeta (a : ℝ) (b : ℝ) 1) r := by
  have haR : (0 : ℝ) < (a : ℝ) := Rat.cast_pos.mpr ha
  have hbR : (0 : ℝ) < (b : ℝ) := Rat.cast_pos.mpr hb
  have hm := betaRegIWith_encloses_closed (lbetaI a b) x a b ha hb hx0 hx1
    (lbetaI_sound a b ha hb hsa hsb hsab) r h
  rw [incBeta_one_eq_Gamma haR hbR]
  exact hm

example : ∃ r, betaRegI (5 / 7) (5 / 4) (1 / 2) = some r ∧
    Mem (incBeta (((5 / 4 : ℚ)) : ℝ) (((1 / 2 : ℚ)) : ℝ) (((5 / 7 : ℚ)) : ℝ) /
      incBeta (((5 / 4 : ℚ)) : ℝ) (((1 / 2 : ℚ)) : ℝ) 1) r := by
  have hs : (betaRegI (5 / 7) (5 / 4) (1 / 2)).isSome = true := by decide +kernel
  obtain ⟨r, hr⟩ := Option.isSome_iff_exists.mp hs
  exact ⟨r, hr, betaRegI_encloses _ _ _ (by norm_num) (by norm_num) lgammaS_isSome_five_quarters
    lgammaS_isSome_half lgammaS_isSome_seven_quarters (by norm_num) (by norm_num) r hr⟩

/-- the closed form of the Student-t CDF through the regularised incomplete beta function
`I_x(a,b) = B_x(a,b)/B_1(a,b)` at `x = ν/(ν+t²)`: `1/2` at `t = 0`, `1 − ½ I_x(ν/2,1/2)` for `t > 0`,
`½ I_x(ν/2,1/2)` for `t < 0`. -/
noncomputable def tCDFviaBeta (ν t : ℝ) : ℝ :=
  if t = 0 then 1 / 2
  else if 0 < t then
    1 - 1 / 2 * (incBeta (ν / 2) (1 / 2) (ν / (ν + t ^ 2)) / incBeta (ν / 2) (1 / 2) 1)
  else 1 / 2 * (incBeta (ν / 2) (1 / 2) (ν / (ν + t ^ 2)) / incBeta (ν / 2) (1 / 2) 1)

lemma tCDFgen_eq (ν t : ℚ) (ht : t ≠ 0) :
    tCDFgen ν t = (betaRegI (ν / (ν + t * t)) (ν / 2) (1 / 2)).map fun b =>
      if t > 0 then I.sub (I.ofRat 1) (I.scale (1 / 2) b)
      else I.sub (I.ofRat 1) (I.sub (I.ofRat 1) (I.scale (1 / 2) b)) := by
  unfold tCDFgen
  rw [if_neg (by simpa using ht)]
  dsimp only
  generalize betaRegI _ _ _ = o
  cases o with
  | none => rfl
  | some b => dsimp only [Option.map_some]; split_ifs <;> rfl

/-- `tCDFgen` encloses the beta-function form of the Student-t CDF.  For rational `ν > 0` such
that the series enclosures of `log Γ` exist at `ν/2`, `1/2`, `ν/2 + 1/2`, and any rational `t`: any
interval returned by `tCDFgen ν t` contains `tCDFviaBeta ν t` (for `t < 0` the model returns
`1 − (1 − ½ I)`, which contains `½ I`). -/
theorem tCDFgen_encloses_beta (ν t : ℚ) (hν : 0 < ν)
    (hs1 : (lgammaS (ν / 2)).isSome) (hs2 : (lgammaS (1 / 2)).isSome)
    (hs3 : (lgammaS (ν / 2 + 1 / 2)).isSome) (r : I) (h : tCDFgen ν t = some r) :
    Mem (tCDFviaBeta (ν : ℝ) (t : ℝ)) r := by
  by_cases ht0 : t = 0
  · subst ht0
    unfold tCDFgen at h
    simp only [beq_self_eq_true, if_true] at h
    obtain rfl := Option.some.inj h
    simpa [tCDFviaBeta] using ofRat_sound (1 / 2)
  · have ht0R : (t : ℝ) ≠ 0 := by exact_mod_cast ht0
    rw [tCDFgen_eq ν t ht0] at h
    obtain ⟨b, hb, rfl⟩ := Option.map_eq_some_iff.mp h
    have hden : 0 < ν + t * t := by linarith [mul_self_nonneg t]
    have hm := betaRegI_encloses (ν / (ν + t * t)) (ν / 2) (1 / 2) (by linarith) (by norm_num)
      hs1 hs2 hs3 (div_nonneg hν.le hden.le)
      ((div_le_one hden).mpr (by linarith [mul_self_nonneg t])) b hb
    have hcast : (((ν / (ν + t * t) : ℚ)) : ℝ) = (ν : ℝ) / ((ν : ℝ) + (t : ℝ) ^ 2) := by
      push_cast; ring
    rw [hcast, Rat.cast_div, Rat.cast_div, Rat.cast_ofNat, Rat.cast_one] at hm
    have hup := sub_sound (ofRat_sound 1) (scale_sound (1 / 2) hm)
    rw [Rat.cast_one, Rat.cast_div, Rat.cast_one, Rat.cast_ofNat] at hup
    rw [tCDFviaBeta, if_neg ht0R]
    by_cases htpos : 0 < t
    · rw [if_pos htpos, if_pos (Rat.cast_pos.mpr htpos)]
      exact hup
    · rw [if_neg htpos, if_neg (by exact_mod_cast htpos)]
      have := sub_sound (ofRat_sound 1) hup
      rw [Rat.cast_one] at this
      convert this using 1
      ring

lemma tCDFgen_five_halves_one_isSome : (tCDFgen (5 / 2) 1).isSome = true := by decide +kernel

/-- `ν = 5/2`, `t = 1` (so `x = 5/7`, parameters `5/4`, `1/2`, `7/4`): the model returns
an interval and it contains `tCDFviaBeta (5/2) 1` -/
example : ∃ r, tCDFgen (5 / 2) 1 = some r ∧
    Mem (tCDFviaBeta (((5 / 2 : ℚ)) : ℝ) (((1 : ℚ)) : ℝ)) r := by
  obtain ⟨r, hr⟩ := Option.isSome_iff_exists.mp tCDFgen_five_halves_one_isSome
  exact ⟨r, hr, tCDFgen_encloses_beta _ _ (by norm_num) lgammaS_isSome_five_quarters'
    lgammaS_isSome_half lgammaS_isSome_seven_quarters' r hr⟩

/-- on the negative side: `ν = 5/2`, `t = −1` -/
example : ∃ r, tCDFgen (5 / 2) (-1) = some r ∧
    Mem (tCDFviaBeta (((5 / 2 : ℚ)) : ℝ) (((-1 : ℚ)) : ℝ)) r := by
  have hs : (tCDFgen (5 / 2) (-1)).isSome = true := by decide +kernel
  obtain ⟨r, hr⟩ := Option.isSome_iff_exists.mp hs
  exact ⟨r, hr, tCDFgen_encloses_beta _ _ (by norm_num) lgammaS_isSome_five_quarters'
    lgammaS_isSome_half lgammaS_isSome_seven_quarters' r hr⟩


/-- the substitution `φ(s) = ν/(ν+s²)` -/
noncomputable def tPhi (ν s : ℝ) : ℝ := ν / (ν + s ^ 2)

noncomputable def tPhi' (ν s : ℝ) : ℝ := -(2 * ν * s) / (ν + s ^ 2) ^ 2

lemma tPhi_hasDerivAt {ν : ℝ} (hν : 0 < ν) (s : ℝ) : HasDerivAt (tPhi ν) (tPhi' ν s) s := by
  have h1 : HasDerivAt (fun s : ℝ => ν + s ^ 2) (2 * s) s := by
    simpa using (hasDerivAt_pow 2 s).const_add ν
  exact ((hasDerivAt_const s ν).div h1 (by positivity)).congr_deriv (by unfold tPhi'; ring)

/-- `tSubst_algebra` in the log domain: with `Lν = log ν`, `Ls = log s`, `Lw = log (ν+s²)` and
`n = ν`, both sides are `−2·exp` of the same exponent, `−(n+1)/2·Lw + n/2·Lν` -/
lemma tSubst_exp_algebra (Lν Ls Lw n : ℝ) :
    Real.exp ((Lν - Lw) * (n / 2 - 1)) * Real.exp ((2 * Ls - Lw) * (-(1:ℝ) / 2)) *
      (-(2 * Real.exp Lν * Real.exp Ls) / Real.exp Lw ^ 2) =
    -(2 / Real.exp (Lν / 2)) * Real.exp ((Lw - Lν) * (-(n + 1) / 2)) := by
  have : Real.exp ((Lν - Lw) * (n / 2 - 1)) * Real.exp ((2 * Ls - Lw) * (-(1:ℝ) / 2)) *
      (-(2 * Real.exp Lν * Real.exp Ls) / Real.exp Lw ^ 2) =
      -(2 * Real.exp ((Lν - Lw) * (n / 2 - 1) + (2 * Ls - Lw) * (-(1:ℝ) / 2) + Lν + Ls - 2 * Lw)) := by
    rw [Real.exp_sub, Real.exp_add, Real.exp_add, Real.exp_add, two_mul Lw, Real.exp_add]
    field_simp
  rw [this]
  have h2 : -(2 / Real.exp (Lν / 2)) * Real.exp ((Lw - Lν) * (-(n + 1) / 2)) =
      -(2 * Real.exp ((Lw - Lν) * (-(n + 1) / 2) - Lν / 2)) := by
    rw [Real.exp_sub]; field_simp
  rw [h2]
  congr 3
  ring

/-- the algebra of the substitution: `g(φ(s)) φ'(s) = −(2/√ν) (1+s²/ν)^(−(ν+1)/2)` for `s > 0` -/
lemma tSubst_algebra {ν s : ℝ} (hν : 0 < ν) (hs : 0 < s) :
    (tPhi ν s) ^ (ν / 2 - 1) * (1 - tPhi ν s) ^ (-(1 : ℝ) / 2) * tPhi' ν s =
      -(2 / Real.sqrt ν) * (1 + s ^ 2 / ν) ^ (-(ν + 1) / 2) := by
  have hw : 0 < ν + s ^ 2 := by positivity
  have e1 : tPhi ν s = ν / (ν + s ^ 2) := rfl
  have e2 : 1 - tPhi ν s = s ^ 2 / (ν + s ^ 2) := by unfold tPhi; field_simp; ring
  have e3 : 1 + s ^ 2 / ν = (ν + s ^ 2) / ν := by field_simp
  rw [e2, e1, e3, Real.rpow_def_of_pos (div_pos hν hw), Real.rpow_def_of_pos (div_pos (by positivity) hw),
    Real.rpow_def_of_pos (div_pos hw hν), Real.log_div hν.ne' hw.ne', Real.log_div (by positivity) hw.ne',
    Real.log_div hw.ne' hν.ne', Real.log_pow, Real.sqrt_eq_rpow, Real.rpow_def_of_pos hν]
  have := tSubst_exp_algebra (Real.log ν) (Real.log s) (Real.log (ν + s ^ 2)) ν
  rw [Real.exp_log hν, Real.exp_log hs, Real.exp_log hw] at this
  unfold tPhi'
  rw [show Real.log ν * (1 / 2) = Real.log ν / 2 by ring]
  push_cast
  exact this


/-- the integrand of the beta integral at `(ν/2, 1/2)` -/
noncomputable def tG (ν u : ℝ) : ℝ := u ^ (ν / 2 - 1) * (1 - u) ^ (-(1 : ℝ) / 2)

lemma tPhi_pos {ν : ℝ} (hν : 0 < ν) (s : ℝ) : 0 < tPhi ν s := by unfold tPhi; positivity

lemma tPhi_le_one {ν : ℝ} (hν : 0 < ν) (s : ℝ) : tPhi ν s ≤ 1 := by
  unfold tPhi
  rw [div_le_one (by positivity)]
  linarith [sq_nonneg s]

lemma tPhi_lt_one {ν : ℝ} (hν : 0 < ν) {s : ℝ} (hs : s ≠ 0) : tPhi ν s < 1 := by
  unfold tPhi
  rw [div_lt_one (by positivity)]
  have : 0 < s ^ 2 := by positivity
  linarith

lemma tPhi_zero {ν : ℝ} (hν : 0 < ν) : tPhi ν 0 = 1 := by
  unfold tPhi; simp [hν.ne']

lemma tPhi_mem_Icc {ν : ℝ} (hν : 0 < ν) (s : ℝ) : tPhi ν s ∈ Icc (0 : ℝ) 1 :=
  ⟨(tPhi_pos hν s).le, tPhi_le_one hν s⟩

lemma tG_integrableOn {ν : ℝ} (hν : 0 < ν) : IntegrableOn (tG ν) (Icc 0 1) := by
  have h := betaIntegrand_integrableOn (a := ν / 2) (b := 1 / 2) (by positivity) (by norm_num)
  rwa [show (1 / 2 : ℝ) - 1 = -(1 : ℝ) / 2 by norm_num] at h

lemma tG_continuousOn (ν : ℝ) : ContinuousOn (tG ν) (Ioo 0 1) := by
  intro u hu
  have h1 : ContinuousAt (fun u : ℝ => u ^ (ν / 2 - 1)) u :=
    continuousAt_id.rpow_const (Or.inl hu.1.ne')
  have h2 : ContinuousAt (fun u : ℝ => (1 - u) ^ (-(1 : ℝ) / 2)) u :=
    (show ContinuousAt (fun u : ℝ => 1 - u) u by fun_prop).rpow_const
      (Or.inl (by linarith [hu.2] : 1 - u ≠ 0))
  exact (h1.mul h2).continuousWithinAt

lemma tKernel_continuous {ν : ℝ} (hν : 0 < ν) :
    Continuous fun s : ℝ => (1 + s ^ 2 / ν) ^ (-(ν + 1) / 2) := by
  refine Continuous.rpow_const (by fun_prop) fun s => Or.inl ?_
  positivity

/-- For real `ν > 0`, `t > 0`:
`∫₀ᵗ (1+s²/ν)^(−(ν+1)/2) ds = (√ν/2) ∫_{ν/(ν+t²)}^1 u^(ν/2−1) (1−u)^(−1/2) du`. -/
theorem tKernel_integral_eq_beta {ν t : ℝ} (hν : 0 < ν) (ht : 0 < t) :
    ∫ s in (0 : ℝ)..t, (1 + s ^ 2 / ν) ^ (-(ν + 1) / 2) =
      Real.sqrt ν / 2 *
        ∫ u in (ν / (ν + t ^ 2))..1, u ^ (ν / 2 - 1) * (1 - u) ^ (-(1 : ℝ) / 2) := by
  have hmin : min 0 t = 0 := min_eq_left ht.le
  have hmax : max 0 t = t := max_eq_right ht.le
  have hf : ContinuousOn (tPhi ν) (uIcc 0 t) := fun s _ =>
    (tPhi_hasDerivAt hν s).continuousAt.continuousWithinAt
  have hff' : ∀ s ∈ Ioo (min 0 t) (max 0 t), HasDerivWithinAt (tPhi ν) (tPhi' ν s) (Ioi s) s :=
    fun s _ => (tPhi_hasDerivAt hν s).hasDerivWithinAt
  have hgc : ContinuousOn (tG ν) (tPhi ν '' Ioo (min 0 t) (max 0 t)) := by
    refine (tG_continuousOn ν).mono ?_
    rintro _ ⟨s, hs, rfl⟩
    rw [hmin] at hs
    exact ⟨tPhi_pos hν s, tPhi_lt_one hν hs.1.ne'⟩
  have hg1 : IntegrableOn (tG ν) (tPhi ν '' uIcc 0 t) := by
    refine (tG_integrableOn hν).mono_set ?_
    rintro _ ⟨s, _, rfl⟩
    exact tPhi_mem_Icc hν s
  have hc : Continuous fun s : ℝ => -(2 / Real.sqrt ν) * (1 + s ^ 2 / ν) ^ (-(ν + 1) / 2) :=
    continuous_const.mul (tKernel_continuous hν)
  have hg2 : IntegrableOn (fun s => (tG ν ∘ tPhi ν) s * tPhi' ν s) (uIcc 0 t) := by
    rw [uIcc_of_le ht.le, integrableOn_Icc_iff_integrableOn_Ioc]
    refine ((hc.integrableOn_Icc (a := 0) (b := t)).mono_set Ioc_subset_Icc_self).congr_fun
      (fun s hs => ?_) measurableSet_Ioc
    exact (tSubst_algebra hν hs.1).symm
  have key := integral_comp_mul_deriv''' hf hff' hgc hg1 hg2
  have lhs : ∫ s in (0 : ℝ)..t, (tG ν ∘ tPhi ν) s * tPhi' ν s =
      ∫ s in (0 : ℝ)..t, -(2 / Real.sqrt ν) * (1 + s ^ 2 / ν) ^ (-(ν + 1) / 2) := by
    refine integral_congr_ae (Filter.Eventually.of_forall fun s hs => ?_)
    rw [uIoc_of_le ht.le] at hs
    exact tSubst_algebra hν hs.1
  rw [lhs, intervalIntegral.integral_const_mul, tPhi_zero hν, integral_symm (tPhi ν t) 1, neg_mul,
    neg_inj] at key
  have hsq : 0 < Real.sqrt ν := Real.sqrt_pos.mpr hν
  show _ = Real.sqrt ν / 2 * ∫ u in (tPhi ν t)..1, tG ν u
  rw [← key]
  -- `√ν/2 · (2/√ν) = 1`
  field_simp


/-- the Student-t density `f_ν(s) = Γ((ν+1)/2)/(√(νπ) Γ(ν/2)) · (1 + s²/ν)^(−(ν+1)/2)` -/
noncomputable def tDensity (ν s : ℝ) : ℝ :=
  Real.Gamma ((ν + 1) / 2) / (Real.sqrt (ν * Real.pi) * Real.Gamma (ν / 2)) *
    (1 + s ^ 2 / ν) ^ (-(ν + 1) / 2)

/-- `∫_x^1 u^(ν/2−1)(1−u)^(−1/2) du = B_1(ν/2,1/2) − B_x(ν/2,1/2)` for `0 ≤ x ≤ 1` -/
lemma tBeta_tail {ν x : ℝ} (hν : 0 < ν) (hx0 : 0 ≤ x) (hx1 : x ≤ 1) :
    ∫ u in x..1, u ^ (ν / 2 - 1) * (1 - u) ^ (-(1 : ℝ) / 2) =
      incBeta (ν / 2) (1 / 2) 1 - incBeta (ν / 2) (1 / 2) x := by
  rw [← incBeta_tail (by positivity) (by norm_num) hx0 hx1,
    show (1 / 2 : ℝ) - 1 = -(1 : ℝ) / 2 by norm_num]

/-- `∫₀ᵗ f_ν = ½ (1 − I_x(ν/2,1/2))`, `x = ν/(ν+t²)`, for `t > 0` -/
lemma tDensity_integral {ν t : ℝ} (hν : 0 < ν) (ht : 0 < t) :
    ∫ s in (0 : ℝ)..t, tDensity ν s =
      1 / 2 * (1 - incBeta (ν / 2) (1 / 2) (ν / (ν + t ^ 2)) / incBeta (ν / 2) (1 / 2) 1) := by
  have hx : ν / (ν + t ^ 2) ∈ Icc (0 : ℝ) 1 := tPhi_mem_Icc hν t
  unfold tDensity
  rw [intervalIntegral.integral_const_mul, tKernel_integral_eq_beta hν ht, tBeta_tail hν hx.1 hx.2]
  have hB := incBeta_one_eq_Gamma (a := ν / 2) (b := 1 / 2) (by positivity) (by norm_num)
  rw [Real.Gamma_one_half_eq, show ν / 2 + 1 / 2 = (ν + 1) / 2 by ring] at hB
  rw [hB, Real.sqrt_mul hν.le]
  have h1 : 0 < Real.Gamma ((ν + 1) / 2) := Real.Gamma_pos_of_pos (by positivity)
  have h2 : 0 < Real.Gamma (ν / 2) := Real.Gamma_pos_of_pos (by positivity)
  have h3 : 0 < Real.sqrt ν := Real.sqrt_pos.mpr hν
  have h4 : 0 < Real.sqrt Real.pi := Real.sqrt_pos.mpr Real.pi_pos
  -- the normalising constant `Γ((ν+1)/2)/(√ν√π Γ(ν/2))` times `√ν/2` cancels against
  -- `B(ν/2,1/2) = Γ(ν/2)√π/Γ((ν+1)/2)`, leaving `1/2`
  field_simp

/-- For real `ν > 0` and `t > 0`, with the density
`f_ν(s) = Γ((ν+1)/2)/(√(νπ) Γ(ν/2)) · (1 + s²/ν)^(−(ν+1)/2)`:
`1/2 + ∫₀ᵗ f_ν(s) ds = 1 − ½ I_x(ν/2,1/2) = tCDFviaBeta ν t`, `x = ν/(ν+t²)`. -/
theorem studentT_cdf_eq_beta {ν t : ℝ} (hν : 0 < ν) (ht : 0 < t) :
    1 / 2 + ∫ s in (0 : ℝ)..t,
        Real.Gamma ((ν + 1) / 2) / (Real.sqrt (ν * Real.pi) * Real.Gamma (ν / 2)) *
          (1 + s ^ 2 / ν) ^ (-(ν + 1) / 2) =
      tCDFviaBeta ν t := by
  have h := tDensity_integral hν ht
  unfold tDensity at h
  rw [h]
  unfold tCDFviaBeta
  rw [if_neg ht.ne', if_pos ht]
  ring

lemma tDensity_even (ν s : ℝ) : tDensity ν (-s) = tDensity ν s := by
  unfold tDensity; rw [neg_sq]

lemma tCDFviaBeta_neg (ν : ℝ) {t : ℝ} (ht : 0 < t) :
    tCDFviaBeta ν (-t) = 1 - tCDFviaBeta ν t := by
  rw [tCDFviaBeta, tCDFviaBeta, if_neg (neg_ne_zero.mpr ht.ne'),
    if_neg (not_lt.mpr (neg_nonpos.mpr ht.le)), if_neg ht.ne', if_pos ht, neg_sq]
  ring

/-- For real `ν > 0` and every real `t`: `1/2 + ∫₀ᵗ f_ν = tCDFviaBeta ν t`
(for `t < 0` the interval integral is `−∫_t^0`, and `f_ν` is even). -/
theorem studentT_cdf_eq_beta_all {ν : ℝ} (hν : 0 < ν) (t : ℝ) :
    1 / 2 + ∫ s in (0 : ℝ)..t, tDensity ν s = tCDFviaBeta ν t := by
  rcases lt_trichotomy t 0 with ht | rfl | ht
  · have e : ∫ s in (0 : ℝ)..t, tDensity ν s = -∫ s in (0 : ℝ)..(-t), tDensity ν s := by
      have := intervalIntegral.integral_comp_neg (a := 0) (b := -t) (fun s => tDensity ν s)
      simp only [tDensity_even, neg_neg, neg_zero] at this
      rw [this, integral_symm]
    have hneg := tCDFviaBeta_neg ν (neg_pos.mpr ht)
    rw [neg_neg] at hneg
    rw [hneg, ← studentT_cdf_eq_beta hν (neg_pos.mpr ht), e]
    unfold tDensity
    ring
  · simp [tCDFviaBeta]
  · exact studentT_cdf_eq_beta hν ht

/-- (Cauchy, `ν = 1`, `t = 1`): `tCDFviaBeta 1 1 = 1/2 + arctan(1)/π = 3/4` -/
lemma tCDFviaBeta_one_one : tCDFviaBeta 1 1 = 3 / 4 := by
  rw [← studentT_cdf_eq_beta one_pos one_pos]
  have e : ∀ s : ℝ, Real.Gamma ((1 + 1) / 2) / (Real.sqrt (1 * Real.pi) * Real.Gamma (1 / 2)) *
      (1 + s ^ 2 / 1) ^ (-((1 : ℝ) + 1) / 2) = Real.pi⁻¹ * (1 + s ^ 2)⁻¹ := by
    intro s
    rw [show ((1 : ℝ) + 1) / 2 = 1 by norm_num, show -((1 : ℝ) + 1) / 2 = -1 by norm_num,
      Real.Gamma_one, Real.Gamma_one_half_eq, one_mul, Real.rpow_neg_one, div_one,
      Real.mul_self_sqrt Real.pi_pos.le, one_div]
  simp only [e]
  rw [intervalIntegral.integral_const_mul, integral_inv_one_add_sq, Real.arctan_one,
    Real.arctan_zero]
  have := Real.pi_pos
  field_simp
  ring


lemma tDensity_nonneg {ν : ℝ} (hν : 0 < ν) (s : ℝ) : 0 ≤ tDensity ν s := by
  unfold tDensity
  have h1 : 0 < Real.Gamma ((ν + 1) / 2) := Real.Gamma_pos_of_pos (by positivity)
  have h2 : 0 < Real.Gamma (ν / 2) := Real.Gamma_pos_of_pos (by positivity)
  have h3 : (0 : ℝ) ≤ 1 + s ^ 2 / ν := by positivity
  have := Real.rpow_nonneg h3 (-(ν + 1) / 2)
  positivity

lemma tDensity_continuous {ν : ℝ} (hν : 0 < ν) : Continuous (tDensity ν) :=
  continuous_const.mul (tKernel_continuous hν)

lemma tPhi_tendsto_atTop (ν : ℝ) : Filter.Tendsto (tPhi ν) Filter.atTop (nhds 0) :=
  tendsto_const_nhds.div_atTop (Filter.tendsto_atTop_add_const_left _ ν
    (Filter.tendsto_pow_atTop (α := ℝ) two_ne_zero))

lemma tPhi_tendsto_atBot (ν : ℝ) : Filter.Tendsto (tPhi ν) Filter.atBot (nhds 0) := by
  have := (tPhi_tendsto_atTop ν).comp Filter.tendsto_neg_atBot_atTop
  refine this.congr fun t => ?_
  simp [tPhi]

lemma tRegBeta_nonneg {ν : ℝ} (hν : 0 < ν) (t : ℝ) :
    0 ≤ incBeta (ν / 2) (1 / 2) (ν / (ν + t ^ 2)) / incBeta (ν / 2) (1 / 2) 1 :=
  div_nonneg (incBeta_nonneg _ _ (tPhi_mem_Icc hν t).1 (tPhi_mem_Icc hν t).2)
    (incBeta_one_pos (by positivity) (by norm_num)).le

/-- `I_x(ν/2,1/2) → 0` along any filter on which `x = ν/(ν+t²) → 0` (continuity of the primitive
at `0`) -/
lemma tRegBeta_tendsto_zero {ν : ℝ} (hν : 0 < ν) {l : Filter ℝ}
    (hl : Filter.Tendsto (tPhi ν) l (nhds 0)) :
    Filter.Tendsto (fun t => incBeta (ν / 2) (1 / 2) (ν / (ν + t ^ 2)) / incBeta (ν / 2) (1 / 2) 1)
      l (nhds 0) := by
  have hφ : Filter.Tendsto (tPhi ν) l (nhdsWithin 0 (Icc 0 1)) :=
    tendsto_nhdsWithin_iff.mpr ⟨hl, Filter.Eventually.of_forall (tPhi_mem_Icc hν)⟩
  have hc0 := incBeta_continuousWithinAt_zero (a := ν / 2) (b := 1 / 2) (by positivity)
    (by norm_num)
  have h1 := (hc0.tendsto.comp hφ).div_const (incBeta (ν / 2) (1 / 2) 1)
  rwa [incBeta_zero, zero_div] at h1

lemma tCDFviaBeta_tendsto_atBot {ν : ℝ} (hν : 0 < ν) :
    Filter.Tendsto (tCDFviaBeta ν) Filter.atBot (nhds 0) := by
  have h2 := (tRegBeta_tendsto_zero hν (tPhi_tendsto_atBot ν)).const_mul (1 / 2)
  rw [mul_zero] at h2
  refine h2.congr' ?_
  filter_upwards [Filter.eventually_lt_atBot 0] with t ht
  rw [tCDFviaBeta, if_neg ht.ne, if_neg (not_lt.mpr ht.le)]

/-- For real `ν > 0` and every real `t`, the density
`f_ν(s) = Γ((ν+1)/2)/(√(νπ) Γ(ν/2)) · (1 + s²/ν)^(−(ν+1)/2)` is integrable on `(−∞, t]` and
`∫_{−∞}^t f_ν(s) ds = tCDFviaBeta ν t` — the quantity enclosed by the model `tCDFgen`. -/
theorem studentT_cdf {ν : ℝ} (hν : 0 < ν) (t : ℝ) :
    IntegrableOn (tDensity ν) (Iic t) ∧ ∫ s in Iic t, tDensity ν s = tCDFviaBeta ν t := by
  have hcont := tDensity_continuous hν
  have hval : ∀ i : ℝ, ∫ x in i..0, tDensity ν x = 1 / 2 - tCDFviaBeta ν i := by
    intro i
    have := studentT_cdf_eq_beta_all hν i
    rw [integral_symm]
    linarith
  have hint0 : IntegrableOn (tDensity ν) (Iic 0) := by
    refine integrableOn_Iic_of_intervalIntegral_norm_bounded (a := id) (l := Filter.atBot) (1 / 2) 0
      (fun i => (hcont.integrableOn_Icc (a := i) (b := 0)).mono_set Ioc_subset_Icc_self)
      Filter.tendsto_id ?_
    filter_upwards [Filter.eventually_lt_atBot 0] with i hi
    simp only [id, Real.norm_of_nonneg (tDensity_nonneg hν _)]
    rw [hval]
    have : 0 ≤ tCDFviaBeta ν i := by
      rw [tCDFviaBeta, if_neg hi.ne, if_neg (not_lt.mpr hi.le)]
      exact mul_nonneg (by norm_num) (tRegBeta_nonneg hν i)
    linarith
  have hlim := intervalIntegral_tendsto_integral_Iic (a := id) 0 hint0 Filter.tendsto_id
  simp only [id] at hlim
  have hlim2 : Filter.Tendsto (fun i => ∫ x in i..0, tDensity ν x) Filter.atBot
      (nhds (1 / 2 - 0)) := by
    simp only [hval]
    exact tendsto_const_nhds.sub (tCDFviaBeta_tendsto_atBot hν)
  have h0 : ∫ s in Iic (0 : ℝ), tDensity ν s = 1 / 2 := by
    rw [tendsto_nhds_unique hlim hlim2]; norm_num
  have hintt : IntegrableOn (tDensity ν) (Iic t) := by
    refine (hint0.union (hcont.integrableOn_Icc (a := 0) (b := t))).mono_set ?_
    intro x hx
    rcases le_total x 0 with h | h
    · exact Or.inl h
    · exact Or.inr ⟨h, hx⟩
  refine ⟨hintt, ?_⟩
  have := intervalIntegral.integral_Iic_sub_Iic hint0 hintt
  have h2 := studentT_cdf_eq_beta_all hν t
  linarith


/-- `f_ν` is a probability density.  For real `ν > 0` the Student-t density is non-negative,
integrable on `ℝ`, and `∫_ℝ f_ν = 1` (so the normalising constant `Γ((ν+1)/2)/(√(νπ) Γ(ν/2))` is
the right one). -/
theorem tDensity_integral_eq_one {ν : ℝ} (hν : 0 < ν) :
    (∀ s, 0 ≤ tDensity ν s) ∧ Integrable (tDensity ν) ∧ ∫ s, tDensity ν s = 1 := by
  obtain ⟨hint0, h0⟩ := studentT_cdf hν 0
  -- `f_ν` is even, so `(0,∞)` carries the same mass `1/2` as `(−∞,0]`
  have hintI : IntegrableOn (tDensity ν) (Ioi 0) := by
    have := hint0.comp_neg
    simp only [tDensity_even, neg_Iic, neg_zero] at this
    exact this.mono_set Ioi_subset_Ici_self
  have hI : ∫ s in Ioi (0 : ℝ), tDensity ν s = ∫ s in Iic (0 : ℝ), tDensity ν s := by
    have := integral_comp_neg_Iic 0 (tDensity ν)
    simp only [tDensity_even, neg_zero] at this
    exact this.symm
  have hall : Integrable (tDensity ν) := by
    have := hint0.union hintI
    rwa [Iic_union_Ioi, integrableOn_univ] at this
  refine ⟨tDensity_nonneg hν, hall, ?_⟩
  have := setIntegral_union (Iic_disjoint_Ioi le_rfl) measurableSet_Ioi hint0 hintI
  rw [Iic_union_Ioi, Measure.restrict_univ, hI, h0] at this
  rw [this, tCDFviaBeta]
  norm_num


/-- `tKernel_integral_eq_beta` at `ν = 3`, `t = 2` (`x = 3/7`) -/
example : ∫ s in (0 : ℝ)..2, (1 + s ^ 2 / 3) ^ (-((3 : ℝ) + 1) / 2) =
    Real.sqrt 3 / 2 *
      ∫ u in ((3 : ℝ) / (3 + 2 ^ 2))..1, u ^ ((3 : ℝ) / 2 - 1) * (1 - u) ^ (-(1 : ℝ) / 2) :=
  tKernel_integral_eq_beta (by norm_num) (by norm_num)

/-- `studentT_cdf_eq_beta` at `ν = 1`, `t = 1` is the Cauchy CDF: `1/2 + arctan(1)/π = 3/4` -/
example : tCDFviaBeta 1 1 = 3 / 4 := tCDFviaBeta_one_one

/-- `studentT_cdf_eq_beta_all` on the negative side, `ν = 1`, `t = −1`: `½ I_{1/2}(1/2,1/2) = 1/4` -/
lemma tCDFviaBeta_one_neg_one : tCDFviaBeta 1 (-1) = 1 / 4 := by
  rw [tCDFviaBeta_neg 1 one_pos, tCDFviaBeta_one_one]
  norm_num

example : 1 / 2 + ∫ s in (0 : ℝ)..(-1), tDensity 1 s = 1 / 4 := by
  rw [studentT_cdf_eq_beta_all one_pos, tCDFviaBeta_one_neg_one]

/-- `studentT_cdf` at `ν = 1`: `∫_{−∞}^1 f_1 = 3/4`, `∫_{−∞}^{−1} f_1 = 1/4`, `∫_{−∞}^0 f_ν = 1/2` -/
example : ∫ s in Iic (1 : ℝ), tDensity 1 s = 3 / 4 := by
  rw [(studentT_cdf one_pos 1).2, tCDFviaBeta_one_one]

example : ∫ s in Iic (-1 : ℝ), tDensity 1 s = 1 / 4 := by
  rw [(studentT_cdf one_pos (-1)).2, tCDFviaBeta_one_neg_one]

example (ν : ℝ) (hν : 0 < ν) : ∫ s in Iic (0 : ℝ), tDensity ν s = 1 / 2 := by
  rw [(studentT_cdf hν 0).2]; simp [tCDFviaBeta]

/-- `tDensity_integral_eq_one` at `ν = 5/2` -/
example : ∫ s, tDensity (5 / 2) s = 1 := (tDensity_integral_eq_one (by norm_num)).2.2

/-- `tCDFgen` encloses the Student-t CDF.  For rational `ν > 0` such that the series enclosures
of `log Γ` exist at `ν/2`, `1/2`, `ν/2 + 1/2` (no Stirling fallback) and any rational `t`: any
interval returned by `tCDFgen ν t` contains `∫_{−∞}^t f_ν(s) ds`, with
`f_ν(s) = Γ((ν+1)/2)/(√(νπ) Γ(ν/2)) · (1 + s²/ν)^(−(ν+1)/2)` the Student-t density. -/
theorem tCDFgen_encloses_cdf (ν t : ℚ) (hν : 0 < ν)
    (hs1 : (lgammaS (ν / 2)).isSome) (hs2 : (lgammaS (1 / 2)).isSome)
    (hs3 : (lgammaS (ν / 2 + 1 / 2)).isSome) (r : I) (h : tCDFgen ν t = some r) :
    Mem (∫ s in Iic (t : ℝ), tDensity (ν : ℝ) s) r := by
  have hνR : (0 : ℝ) < (ν : ℝ) := Rat.cast_pos.mpr hν
  rw [(studentT_cdf hνR (t : ℝ)).2]
  exact tCDFgen_encloses_beta ν t hν hs1 hs2 hs3 r h

/-- `ν = 5/2`, `t = 1` -/
example : ∃ r, tCDFgen (5 / 2) 1 = some r ∧
    Mem (∫ s in Iic (((1 : ℚ)) : ℝ), tDensity (((5 / 2 : ℚ)) : ℝ) s) r := by
  obtain ⟨r, hr⟩ := Option.isSome_iff_exists.mp tCDFgen_five_halves_one_isSome
  exact ⟨r, hr, tCDFgen_encloses_cdf _ _ (by norm_num) lgammaS_isSome_five_quarters'
    lgammaS_isSome_half lgammaS_isSome_seven_quarters' r hr⟩

/-- end-to-end check at the Cauchy point `ν = 1`, `t = 1`: the model returns an interval inside
`[0.749999999, 0.750000001]` (kernel evaluation), and that interval contains the true CDF value
`3/4` (the theorems above) -/
example : ∃ r, tCDFgen 1 1 = some r ∧ Mem (3 / 4 : ℝ) r ∧
    (749999999 / 1000000000 : ℚ) ≤ r.lo ∧ r.hi ≤ (750000001 / 1000000000 : ℚ) := by
  have h : ((tCDFgen 1 1).any (fun e => decide ((749999999 / 1000000000 : ℚ) ≤ e.lo) &&
      decide (e.hi ≤ (750000001 / 1000000000 : ℚ)))) = true := by decide +kernel
  rw [Option.any_eq_true] at h
  obtain ⟨e, he, hb⟩ := h
  rw [Bool.and_eq_true, decide_eq_true_eq, decide_eq_true_eq] at hb
  have hm := tCDFgen_encloses_beta 1 1 (by norm_num) lgammaS_isSome_half lgammaS_isSome_half
    lgammaS_isSome_one e he
  rw [Rat.cast_one, tCDFviaBeta_one_one] at hm
  exact ⟨e, he, hm, hb.1, hb.2⟩

end MV.Special
