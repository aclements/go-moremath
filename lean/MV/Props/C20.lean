import Mathlib.Tactic
import MV.Model.Purity
/-!
# C20 — purity, determinism, interleaving independence (heap machine)

These are true of the model by construction; the content of C20 is in the
correspondence (observed write sets, bitwise repeatability, concurrent replay
under the race detector).
-/
namespace MV.Purity

variable {Val Out : Type}

/-- A non-mutating call leaves the whole heap unchanged. -/
theorem step_pure_frame (sem : Sem Val Out) (s : Heap Val) (c : Call) (h : mutating c.name = false) :
    (step sem s c).1 = s := by
  unfold step; simp [h]

/-- A mutating call changes at most its receiver (argument 0). -/
theorem step_mut_frame (sem : Sem Val Out) (s : Heap Val) (c : Call) (i : Nat)
    (hi : ∀ r, c.args.head? = some r → i ≠ r) : (step sem s c).1 i = s i := by
  unfold step
  split
  · cases hargs : c.args with
    | nil => simp
    | cons r rest =>
      have := hi r (by simp [hargs])
      simp [this]
  · rfl

/-- The result of a call depends only on the values of its named arguments: heaps that
agree on the arguments give the same output — so a repeated call returns the same result
whatever was called in between, as long as its arguments were not written. -/
theorem step_out_deterministic (sem : Sem Val Out) (s t : Heap Val) (c : Call)
    (h : ∀ i ∈ c.args, s i = t i) : (step sem s c).2 = (step sem t c).2 := by
  have hm : c.args.map s = c.args.map t := List.map_congr_left h
  unfold step
  simp only [hm]
  split
  · cases c.args <;> rfl
  · rfl

/-- Running any list of non-mutating calls leaves the heap unchanged and yields, call for
call, the outputs each call gives on the initial heap. -/
theorem run_pure (sem : Sem Val Out) (s : Heap Val) (cs : List Call)
    (h : ∀ c ∈ cs, mutating c.name = false) :
    run sem s cs = (s, cs.map fun c => (step sem s c).2) := by
  induction cs with
  | nil => rfl
  | cons c cs ih =>
    have hc := h c (List.mem_cons_self ..)
    have hs : (step sem s c).1 = s := step_pure_frame sem s c hc
    simp only [run, List.map_cons]
    have := ih (fun c' hc' => h c' (List.mem_cons_of_mem _ hc'))
    rw [show step sem s c = ((step sem s c).1, (step sem s c).2) from rfl]
    simp only [hs, this]

/-- Interleaving independence: for any two (hence any number of) threads of non-mutating
calls, every interleaving `zs` of their call lists (any permutation of the concatenation)
produces for each call exactly the output of the sequential run. -/
theorem interleaving_outputs (sem : Sem Val Out) (s : Heap Val) (xs ys zs : List Call)
    (hperm : zs.Perm (xs ++ ys))
    (hx : ∀ c ∈ xs, mutating c.name = false) (hy : ∀ c ∈ ys, mutating c.name = false) :
    (run sem s zs).1 = s ∧ (run sem s zs).2 = zs.map fun c => (step sem s c).2 := by
  have hz : ∀ c ∈ zs, mutating c.name = false := by
    intro c hc
    have := hperm.subset hc
    rcases List.mem_append.mp this with h | h
    · exact hx c h
    · exact hy c h
  rw [run_pure sem s zs hz]
  exact ⟨rfl, rfl⟩

/-- `Mean` is not a mutator, `S.Sort` is. -/
example : mutating "Mean" = false ∧ mutating "S.Sort" = true := by decide

end MV.Purity
