import MV.Props.FactsHolds
/-! Source facts the C18 model relies on (checked against the facts regenerated from /repo on every run). -/
namespace MV.Facts

def expectedC18 : List (String × String) := [("lits:graphalg.NewNodeMarks", "1024 32"), ("lits:graphalg.NodeMarks.grow", "1 1 1 32"), ("lits:graphalg.NodeMarks.Test", "0 0 1 32 32 32")]

/-- the constants and literals the C18 model mirrors are still what the source says -/
theorem facts_C18 : holdsAll expectedC18 = true := by decide +kernel


/-- State that outlives a call, as extracted from the source on this run: the package-level
variables of the packages this property's code lives in, the functions (other than `init`) that
assign to them or call methods on them, and the fields of the property's struct types. The model is
a pure function of the arguments and of these fields; a new variable, writer or field is state the
model does not know of. The digest-valued `shape:` entry covers everything the call graph
(resolved by go/types) reaches from the functions declared in the property's anchor files: per
function, method (with receiver kind), package variable and constant, its numeric literals, its comparison operators, the
package variables it reads and its writes through parameters or the receiver (including in-place
`sort.*`/`copy`/`append`). The entries behind the digest are in `shape_expected.txt` and in a
comment of the generated file. -/
def stateC18 : List (String × String) := [("globals:graph", ""), ("globals:graphalg", ""), ("globals:graphout", ""), ("globalwrites:graph", ""), ("globalwrites:graphalg", ""), ("globalwrites:graphout", ""), ("fields:graphalg.NodeMarks", "marks:[]uint32"), ("fields:graphalg.SCCGraph", "subnodes:[]int subnodeIndexes:[]int subnodeComponent:[]int out:[]int outIndexes:[]int"), ("fields:graphalg.Euler", "Enter:func(nint) Exit:func(nint)"), ("fields:graphalg.simplified", "indexes:[]int edges:[]int weights:[]float64"), ("fields:graph.bigraph", "(embedded):Graph preds:[][]int"), ("fields:graph.listSubgraph", "underlying:Graph nodes:[]listSubgraphNode"), ("fields:graph.listSubgraphNode", "out:[]int oldNode:int oldEdges:[]int"), ("fields:graphout.Dot", "Name:string Label:func(nodeint)string NodeAttrs:func(nodeint)[]DotAttr EdgeAttrs:func(node,edgeint)[]DotAttr"), ("fields:graphout.DotAttr", "Name:string Val:interface{}"), ("shape:C18", "n=42 fnv64a=c10447944d7bf105")]

/-- the source has exactly the package-level variables, writers and struct fields the model accounts for -/
theorem state_C18 : holdsAll stateC18 = true := by
  repeat (refine holdsAll_cons rfl ?_)
  exact holdsAll_nil

end MV.Facts
