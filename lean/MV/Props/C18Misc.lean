import Mathlib.Tactic
import MV.Model.Graph
import MV.Props.C18Reach
/-!
# C18 (misc) — dot quoting, Equal, transpose, SimplifyMulti, subgraphs
-/

namespace MV.Graph

/-! ## dot quoting -/

/-- the per-character escape used by `dotEscape` -/
def escChar (c : Char) : List Char :=
  if c == '\n' then ['\\', 'n']
  else if c == '\\' || c == '"' || c == '{' || c == '}' || c == '<' || c == '>' || c == '|' then ['\\', c]
  else [c]

lemma dotEscape_eq (s : List Char) : dotEscape s = '"' :: (s.flatMap escChar ++ ['"']) := by
  rfl

lemma dotUnescape_go_escape (s : List Char) (acc : List Char) :
    dotUnescape.go (s.flatMap escChar ++ ['"']) acc = some (acc.reverse ++ s) := by
  induction s generalizing acc with
  | nil => simp [dotUnescape.go]
  | cons c s ih =>
    simp only [List.flatMap_cons, escChar]
    split_ifs with h1 h2
    · simp at h1
      subst h1
      simp [dotUnescape.go, ih]
    · have hn : c ≠ 'n' := by
        rintro rfl; simp at h2
      have hn' : c ≠ '\n' := by simpa using h1
      simp only [List.cons_append, List.nil_append]
      rw [dotUnescape.go.eq_3 _ _ _ hn, ih]; simp
    · -- an ordinary character is neither `\` nor `"`: only the last case of `go` matches
      simp only [Bool.or_eq_true, beq_iff_eq, not_or] at h2
      obtain ⟨⟨⟨⟨⟨⟨hbackslash, hquote⟩, -⟩, -⟩, -⟩, -⟩, -⟩ := h2
      simp only [List.cons_append, List.nil_append]
      rw [dotUnescape.go.eq_5 _ _ _ (fun h => absurd h hquote)
        (fun _ h => absurd h hbackslash) (fun _ _ h => absurd h hbackslash)
        (fun h => absurd h hquote), ih]
      simp

/-- Quoting a string with `dotEscape` and reading it back with `dotUnescape` restores the
original string, for every string (all characters, including newline, backslash, quote,
braces, angle brackets and bar).  In particular `dotUnescape` accepts (consumes the whole of)
every output of `dotEscape`. -/
theorem dotUnescape_dotEscape (s : List Char) : dotUnescape (dotEscape s) = some s := by
  rw [dotEscape_eq]
  simp only [dotUnescape]
  rw [dotUnescape_go_escape]; simp

example : dotUnescape (dotEscape "a\"b\\c\n{<|>}".toList) = some "a\"b\\c\n{<|>}".toList :=
  dotUnescape_dotEscape _

/-- `dotEscape` is injective: distinct strings get distinct quoted forms. -/
theorem dotEscape_injective : Function.Injective dotEscape := by
  intro a b h
  have := congrArg dotUnescape h
  simpa [dotUnescape_dotEscape] using this

example : dotEscape "a|b".toList ≠ dotEscape "a\\|b".toList :=
  fun h => absurd (dotEscape_injective h) (by decide)

/-- Scanner for the body of a quoted token: `true` iff the body contains no unescaped `"`
and does not end in a dangling backslash (a backslash always swallows the next character). -/
def noBareQuote : List Char → Bool
  | [] => true
  | '\\' :: _ :: r => noBareQuote r
  | ['\\'] => false
  | '"' :: _ => false
  | _ :: r => noBareQuote r

lemma noBareQuote_append_esc (c : Char) (r : List Char) :
    noBareQuote (escChar c ++ r) = noBareQuote r := by
  unfold escChar
  split_ifs with h1 h2
  · simp [noBareQuote]
  · simp [noBareQuote]
  · simp only [Bool.or_eq_true, beq_iff_eq, not_or] at h2
    obtain ⟨⟨⟨⟨⟨⟨hbackslash, hquote⟩, -⟩, -⟩, -⟩, -⟩, -⟩ := h2
    simp only [List.cons_append, List.nil_append]
    rw [noBareQuote.eq_5]
    · intro _ _ h; exact absurd h hbackslash
    · intro h; exact absurd h hbackslash
    · intro h; exact absurd h hquote

/-- The output of `dotEscape` is exactly one quoted token: an opening `"`, a body in which
every `"` is escaped (no bare quote, no dangling backslash — `noBareQuote`), and a closing `"`. -/
theorem dotEscape_one_token (s : List Char) :
    ∃ body, dotEscape s = '"' :: (body ++ ['"']) ∧ noBareQuote body = true := by
  refine ⟨s.flatMap escChar, dotEscape_eq s, ?_⟩
  induction s with
  | nil => simp [noBareQuote]
  | cons c s ih => rw [List.flatMap_cons, noBareQuote_append_esc]; exact ih

example : ∃ body, dotEscape "a\"b".toList = '"' :: (body ++ ['"']) ∧ noBareQuote body = true :=
  dotEscape_one_token _
example : noBareQuote "a\"b".toList = false := by decide
example : noBareQuote "a\\\"b".toList = true := by decide

/-! ## sortNat, graphEqual -/

example : sortNat [3, 1, 2, 1] = [1, 1, 2, 3] := by decide
example : (sortNat [3, 1, 2, 1]).Perm [3, 1, 2, 1] := sortNat_perm _
example : (sortNat [3, 1, 2, 1]).Pairwise (· ≤ ·) := sortNat_sorted _

lemma sortNat_eq_iff_perm (a b : List Nat) : sortNat a = sortNat b ↔ a.Perm b :=
  ⟨fun h => (sortNat_perm a).symm.trans (h ▸ sortNat_perm b),
   fun h => sortNat_eq_of_perm (h.trans (sortNat_perm b).symm) (sortNat_sorted b)⟩

/-- `graphEqual` holds exactly when the two graphs have the same number of nodes and, node by
node, their adjacency lists are equal as multisets (same successors with the same
multiplicities, order ignored). -/
theorem graphEqual_iff (g1 g2 : G) :
    graphEqual g1 g2 = true ↔ g1.size = g2.size ∧ ∀ i < g1.size, (out g1 i).Perm (out g2 i) := by
  simp only [graphEqual, Bool.and_eq_true, beq_iff_eq, List.all_eq_true, List.mem_range,
    sortNat_eq_iff_perm]

example : graphEqual #[[1, 2, 1], [0]] #[[2, 1, 1], [0]] = true := by decide
example : graphEqual #[[1, 2, 1], [0]] #[[2, 1], [0]] = false := by decide
example : (out (#[[1, 2, 1], [0]] : G) 0).Perm (out (#[[2, 1, 1], [0]] : G) 0) :=
  ((graphEqual_iff _ _).1 (by decide)).2 0 (by decide)

/-! ## transpose -/

/-- The transpose has one in-list per node. -/
theorem transpose_length (g : G) : (transpose g).length = g.size := by
  simp [transpose]

lemma count_filterMap_src (l : List Nat) (v u u' : Nat) :
    (l.filterMap fun w => if w == v then some u' else none).count u =
      if u' = u then l.count v else 0 := by
  rw [List.count_filterMap]
  split_ifs with h
  · subst h
    exact List.countP_congr fun w _ => by by_cases hw : w = v <;> simp [hw]
  · exact List.countP_eq_zero.2 fun w _ => by by_cases hw : w = v <;> simp [hw, h]

/-- In is the transpose of Out with multiplicity (strong form, no well-formedness needed):
the number of times `u` occurs in the in-list of `v` equals the number of times `v` occurs
in the out-list of `u`. -/
theorem transpose_count' (g : G) (u v : Nat) (hu : u < g.size) (hv : v < g.size) :
    ((transpose g).getD v []).count u = (out g u).count v := by
  have : (transpose g).getD v [] =
      (List.range g.size).flatMap fun u => (out g u).filterMap fun w => if w == v then some u else none := by
    simp [transpose, List.getD, hv]
  -- the count over the `flatMap` is a sum over the sources, and only source `u` contributes
  rw [this, List.count_flatMap,
    List.sum_map_eq_nsmul_single u _ fun u' hne _ => by
      rw [Function.comp, count_filterMap_src, if_neg hne],
    List.count_eq_one_of_mem List.nodup_range (List.mem_range.2 hu), one_smul, Function.comp,
    count_filterMap_src, if_pos rfl]

/-- In is the transpose of Out with multiplicity: for a well-formed graph (every successor
is a node) and nodes `u`, `v`, the number of times `u` occurs in the in-list of `v` equals the
number of times `v` occurs in the out-list of `u`.  (The hypothesis is not needed:
`transpose_count'`.) -/
theorem transpose_count (g : G) (hwf : ∀ u < g.size, ∀ v ∈ out g u, v < g.size) (u v : Nat)
    (hu : u < g.size) (hv : v < g.size) :
    ((transpose g).getD v []).count u = (out g u).count v :=
  transpose_count' g u v hu hv

def wfB (g : G) : Bool := (List.range g.size).all fun u => (out g u).all fun v => decide (v < g.size)

lemma wfB_iff (g : G) : wfB g = true ↔ ∀ u < g.size, ∀ v ∈ out g u, v < g.size := by
  simp [wfB]

example : wfB #[[1, 1, 2], [0, 2], [2]] = true := by decide
example : transpose #[[1, 1, 2], [0, 2], [2]] = [[1], [0, 0], [0, 1, 2]] := by decide
example : ((transpose #[[1, 1, 2], [0, 2], [2]]).getD 1 []).count 0 = 2 := by
  rw [transpose_count _ ((wfB_iff _).1 (by decide)) 0 1 (by decide) (by decide)]; decide
example : (transpose #[[1, 1, 2], [0, 2], [2]]).length = 3 := transpose_length _
example : ((transpose #[[1, 1, 2], [0, 2], [2]]).getD 2 []).count 1 = (out #[[1, 1, 2], [0, 2], [2]] 1).count 2 :=
  transpose_count' _ 1 2 (by decide) (by decide)

/-! ## simplifyNode -/

/-- one step of the `simplifyNode` fold -/
def sstep (acc : List (Nat × Rat)) (p : Nat × Rat) : List (Nat × Rat) :=
  if acc.any (·.1 == p.1) then acc.map fun (o', w') => if o' == p.1 then (o', w' + p.2) else (o', w')
  else acc ++ [(p.1, p.2)]

lemma simplifyNode_eq (outs : List Nat) (ws : List Rat) :
    simplifyNode outs ws = (outs.zip ws).foldl sstep [] := by
  unfold simplifyNode
  congr 1

lemma sstep_keys (acc : List (Nat × Rat)) (p : Nat × Rat) :
    (sstep acc p).map (·.1) =
      if p.1 ∈ acc.map (·.1) then acc.map (·.1) else acc.map (·.1) ++ [p.1] := by
  have hany : acc.any (·.1 == p.1) = true ↔ p.1 ∈ acc.map (·.1) := by
    simp only [List.any_eq_true, beq_iff_eq, List.mem_map]
  unfold sstep
  split_ifs with h1 h2 h2
  · rw [List.map_map]
    refine List.map_congr_left fun q _ => ?_
    simp only [Function.comp]
    split_ifs <;> rfl
  · exact absurd (hany.1 h1) h2
  · exact absurd (hany.2 h2) h1
  · rw [List.map_append, List.map_singleton]

lemma foldl_sstep_nodup (l acc : List (Nat × Rat)) (h : (acc.map (·.1)).Nodup) :
    ((l.foldl sstep acc).map (·.1)).Nodup := by
  induction l generalizing acc with
  | nil => simpa
  | cons p l ih =>
    simp only [List.foldl_cons]
    apply ih
    rw [sstep_keys]
    split_ifs with hp
    · exact h
    · exact List.Nodup.append h (by simp) (by simpa using hp)

/-- the keys evolve exactly like the accumulator of `List.eraseDups` (kept there in reverse) -/
lemma foldl_sstep_keys (l acc : List (Nat × Rat)) :
    (l.foldl sstep acc).map (·.1) =
      List.eraseDupsBy.loop (· == ·) (l.map (·.1)) (acc.map (·.1)).reverse := by
  induction l generalizing acc with
  | nil => simp [List.eraseDupsBy.loop]
  | cons p l ih =>
    rw [List.foldl_cons, ih, sstep_keys, List.map_cons, List.eraseDupsBy.loop, List.any_reverse,
      List.any_beq, List.contains_eq_mem]
    split_ifs with hp
    · rw [decide_eq_true hp]
    · rw [decide_eq_false hp, List.reverse_append]
      rfl

/-- Whatever the lengths, the targets of the merged list are those of the zipped list with later
duplicates erased (`zip` drops surplus targets or weights). -/
lemma simplifyNode_keys (outs : List Nat) (ws : List Rat) :
    (simplifyNode outs ws).map (·.1) = ((outs.zip ws).map (·.1)).eraseDups := by
  rw [simplifyNode_eq, foldl_sstep_keys]
  rfl

/-- Simplify lists the targets in first-occurrence order: the targets of the merged list are
`outs` with later duplicates erased. -/
theorem simplifyNode_order (outs : List Nat) (ws : List Rat) (hlen : outs.length = ws.length) :
    (simplifyNode outs ws).map (·.1) = outs.eraseDups := by
  rw [simplifyNode_keys, List.map_fst_zip (le_of_eq hlen)]

example : (simplifyNode [2, 1, 2, 3, 1, 2] [1, 1, 1, 1, 1, 1]).map (·.1) = [2, 1, 3] :=
  simplifyNode_order _ _ rfl

/-- Simplify lists every target once: the targets of the merged edge list are pairwise
distinct. -/
theorem simplifyNode_nodup (outs : List Nat) (ws : List Rat) :
    ((simplifyNode outs ws).map (·.1)).Nodup := by
  rw [simplifyNode_eq]
  exact foldl_sstep_nodup _ [] (by simp)

/-- Simplify keeps exactly the original targets: with one weight per edge
(`outs.length = ws.length`), `o` is a target of the merged list iff it is a target of the
original list. -/
theorem simplifyNode_targets (outs : List Nat) (ws : List Rat) (hlen : outs.length = ws.length)
    (o : Nat) : o ∈ (simplifyNode outs ws).map (·.1) ↔ o ∈ outs := by
  rw [simplifyNode_keys, List.mem_eraseDups, List.map_fst_zip (le_of_eq hlen)]

def weightOf (l : List (Nat × Rat)) (o : Nat) : Rat := (l.lookup o).getD 0

def addWeight (k : Nat) (x : Rat) (p : Nat × Rat) : Nat × Rat := if p.1 = k then (p.1, p.2 + x) else p

lemma addWeight_eq (k : Nat) (x : Rat) :
    (fun (p : Nat × Rat) => match p with | (o', w') => if o' == k then (o', w' + x) else (o', w')) = addWeight k x := by
  funext p
  obtain ⟨o', w'⟩ := p
  simp [addWeight]

lemma lookup_map_addWeight (acc : List (Nat × Rat)) (k o : Nat) (x : Rat) :
    (acc.map (addWeight k x)).lookup o =
      (acc.lookup o).map fun w' => if o = k then w' + x else w' := by
  induction acc with
  | nil => simp
  | cons a acc ih =>
    obtain ⟨o', w'⟩ := a
    rw [List.map_cons, List.lookup_cons]
    by_cases ho : o = o'
    · subst ho
      have h1 : (addWeight k x (o, w')).1 = o := by unfold addWeight; split_ifs <;> rfl
      rw [List.lookup_cons]
      simp only [h1, beq_self_eq_true, Option.map_some]
      unfold addWeight; split_ifs <;> rfl
    · have h1 : (addWeight k x (o', w')).1 = o' := by unfold addWeight; split_ifs <;> rfl
      have : (o == o') = false := by simpa using ho
      rw [List.lookup_cons]
      simp only [h1, this, ih]

lemma lookup_none_of_any_false (acc : List (Nat × Rat)) (k : Nat)
    (h : ¬ acc.any (·.1 == k) = true) : acc.lookup k = none :=
  List.lookup_eq_none_iff.2 fun p hp =>
    bne_iff_ne.2 fun e => h (List.any_eq_true.2 ⟨p, hp, beq_iff_eq.2 e.symm⟩)

lemma lookup_some_of_any_true (acc : List (Nat × Rat)) (k : Nat)
    (h : acc.any (·.1 == k) = true) : ∃ w, acc.lookup k = some w := by
  obtain ⟨p, hp, e⟩ := List.any_eq_true.1 h
  exact Option.isSome_iff_exists.1
    (List.lookup_isSome_iff.2 ⟨p, hp, beq_iff_eq.2 (beq_iff_eq.1 e).symm⟩)

lemma lookup_append_single (acc : List (Nat × Rat)) (k o : Nat) (x : Rat) :
    (acc ++ [(k, x)]).lookup o = (acc.lookup o).or (if o = k then some x else none) := by
  rw [List.lookup_append, List.lookup_cons, List.lookup_nil]
  by_cases h : o = k
  · rw [if_pos h, beq_iff_eq.2 h]
  · rw [if_neg h, beq_eq_false_iff_ne.2 h]

lemma weightOf_sstep (acc : List (Nat × Rat)) (p : Nat × Rat) (o : Nat) :
    weightOf (sstep acc p) o = weightOf acc o + if p.1 = o then p.2 else 0 := by
  unfold weightOf sstep
  by_cases h : acc.any (·.1 == p.1) = true
  · rw [if_pos h, addWeight_eq, lookup_map_addWeight]
    by_cases hp : p.1 = o
    · subst hp
      obtain ⟨w, hw⟩ := lookup_some_of_any_true acc _ h
      simp [hw]
    · have : ¬ o = p.1 := fun h => hp h.symm
      simp only [this, if_false, hp, add_zero]
      cases acc.lookup o <;> simp
  · rw [if_neg h, lookup_append_single]
    by_cases hp : p.1 = o
    · subst hp
      simp [lookup_none_of_any_false acc _ h]
    · have : ¬ o = p.1 := fun h => hp h.symm
      simp [this, hp]

lemma weightOf_foldl (l acc : List (Nat × Rat)) (o : Nat) :
    weightOf (l.foldl sstep acc) o = weightOf acc o + ((l.filter (·.1 == o)).map (·.2)).sum := by
  induction l generalizing acc with
  | nil => simp
  | cons p l ih =>
    simp only [List.foldl_cons]
    rw [ih, weightOf_sstep]
    by_cases hp : p.1 = o
    · simp [hp, add_assoc]
    · simp [hp]

lemma lookup_of_mem_nodup (l : List (Nat × Rat)) (h : (l.map (·.1)).Nodup) (o : Nat) (w : Rat)
    (hm : (o, w) ∈ l) : l.lookup o = some w := by
  obtain ⟨s, t, rfl⟩ := List.append_of_mem hm
  rw [List.map_append, List.nodup_append] at h
  refine List.lookup_eq_some_iff.2 ⟨s, t, rfl, fun p hp => bne_iff_ne.2 fun e => ?_⟩
  exact h.2.2 p.1 (List.mem_map_of_mem hp) o (by simp) e.symm

/-- Simplify sums the weights of parallel edges: if the merged list pairs target `o` with
weight `w`, then `w` is the sum of `ws[k]` over all positions `k` with `outs[k] = o`
(written as the sum of the second components of the pairs of `outs.zip ws` whose first
component is `o`).  With unit weights this is the multiplicity of `o` in `outs`. -/
theorem simplifyNode_weight (outs : List Nat) (ws : List Rat) (o : Nat) (w : Rat)
    (hm : (o, w) ∈ simplifyNode outs ws) :
    w = (((outs.zip ws).filter (·.1 == o)).map (·.2)).sum := by
  have h1 := lookup_of_mem_nodup _ (simplifyNode_nodup outs ws) o w hm
  have h2 := weightOf_foldl (outs.zip ws) [] o
  rw [← simplifyNode_eq] at h2
  simp only [weightOf, h1, Option.getD_some, List.lookup_nil, Option.getD_none, zero_add] at h2
  exact h2

/-- Every original target does get a weight in the merged list: for `o ∈ outs` the pair `(o, Σ ws[k] over outs[k] = o)` is in the result. -/
theorem simplifyNode_weight_mem (outs : List Nat) (ws : List Rat) (hlen : outs.length = ws.length)
    (o : Nat) (ho : o ∈ outs) :
    (o, (((outs.zip ws).filter (·.1 == o)).map (·.2)).sum) ∈ simplifyNode outs ws := by
  have := (simplifyNode_targets outs ws hlen o).2 ho
  obtain ⟨⟨o', w⟩, hm, rfl⟩ := List.mem_map.1 this
  rwa [← simplifyNode_weight outs ws _ w hm]

example : simplifyNode [2, 1, 2, 3, 1, 2] [1, 1, 1, 1, 1, 1] = [(2, 3), (1, 2), (3, 1)] := by
  decide +kernel
example : ((simplifyNode [2, 1, 2, 3, 1, 2] [1, 1, 1, 1, 1, 1]).map (·.1)).Nodup :=
  simplifyNode_nodup _ _
example : 3 ∈ (simplifyNode [2, 1, 2, 3, 1, 2] [1, 1, 1, 1, 1, 1]).map (·.1) :=
  (simplifyNode_targets _ _ rfl 3).2 (by decide)
example : (2, (3 : Rat)) ∈ simplifyNode [2, 1, 2, 3, 1, 2] [1, 1, 1, 1, 1, 1] := by
  decide +kernel
example : ((([2, 1, 2, 3, 1, 2].zip [(1 : Rat), 1/2, 1, 1, 1, 1]).filter (·.1 == 2)).map (·.2)).sum = 3 := by
  decide +kernel
example : (3 : Rat) = ((([2, 1, 2, 3, 1, 2].zip [(1 : Rat), 1, 1, 1, 1, 1]).filter (·.1 == 2)).map (·.2)).sum :=
  simplifyNode_weight [2, 1, 2, 3, 1, 2] [1, 1, 1, 1, 1, 1] 2 3 (by decide +kernel)
example : (1, ((([2, 1, 2, 3, 1, 2].zip [(1 : Rat), 1/2, 1, 1, 1/3, 1]).filter (·.1 == 1)).map (·.2)).sum) ∈
    simplifyNode [2, 1, 2, 3, 1, 2] [1, 1/2, 1, 1, 1/3, 1] :=
  simplifyNode_weight_mem _ _ rfl 1 (by decide)

/-! ## subgraphKeep / subgraphRemove -/

/-- nodes kept by `subgraphRemove`: all nodes not listed in `rmNodes`, increasing -/
def keptNodes (g : G) (rmNodes : List Nat) : List Nat :=
  (List.range g.size).filter fun v => !rmNodes.contains v

/-- edge indices of `old` kept by `subgraphRemove`: target not removed, edge not removed -/
def keptIdx (g : G) (rmNodes : List Nat) (rmEdges : List (Nat × Nat)) (old : Nat) : List Nat :=
  (List.range (out g old).length).filter fun j =>
    !rmNodes.contains ((out g old).getD j 0) && !rmEdges.contains (old, j)

/-- edges kept by `subgraphRemove`, in node-major then edge-index order -/
def keptEdges (g : G) (rmNodes : List Nat) (rmEdges : List (Nat × Nat)) : List (Nat × Nat) :=
  (keptNodes g rmNodes).flatMap fun u => (keptIdx g rmNodes rmEdges u).map fun j => (u, j)

/-- among the edges listed node by node (distinct nodes), those of one node form its own block -/
lemma filter_flatMap_fst_nodup (l : List Nat) (hl : l.Nodup) (f : Nat → List Nat) (old : Nat)
    (hm : old ∈ l) :
    (l.flatMap fun u => (f u).map fun j => (u, j)).filter (fun (p : Nat × Nat) => p.1 == old) =
      (f old).map fun j => (old, j) := by
  have none : ∀ r : List Nat, old ∉ r →
      (r.flatMap fun u => (f u).map fun j => (u, j)).filter (fun (p : Nat × Nat) => p.1 == old) = [] := by
    intro r hr
    rw [List.filter_eq_nil_iff]
    intro p hp
    obtain ⟨u, hu, hp⟩ := List.mem_flatMap.1 hp
    obtain ⟨j, -, rfl⟩ := List.mem_map.1 hp
    exact fun e => hr (beq_iff_eq.1 e ▸ hu)
  obtain ⟨s, t, rfl⟩ := List.append_of_mem hm
  rw [List.nodup_append, List.nodup_cons] at hl
  rw [List.flatMap_append, List.flatMap_cons, List.filter_append, List.filter_append,
    none s fun h => hl.2.2 old h old List.mem_cons_self rfl, none t hl.2.1.1, List.nil_append,
    List.append_nil, List.filter_eq_self]
  intro p hp
  obtain ⟨j, -, rfl⟩ := List.mem_map.1 hp
  exact beq_self_eq_true old

lemma keptNodes_nodup (g : G) (rmNodes : List Nat) : (keptNodes g rmNodes).Nodup :=
  List.Nodup.filter _ List.nodup_range

/-- `subgraphRemove` is `subgraphKeep` of the complement: removing nodes `rmNodes` and edges
`rmEdges` gives the same result as keeping the nodes not in `rmNodes` (increasing order) and
the edges `keptEdges` (node-major, then edge-index order; characterised by
`mem_keptEdges` and `keptEdges_sorted`). -/
theorem subgraphRemove_eq_keep (g : G) (rmNodes : List Nat) (rmEdges : List (Nat × Nat)) :
    subgraphRemove g rmNodes rmEdges =
      subgraphKeep g (keptNodes g rmNodes) (keptEdges g rmNodes rmEdges) := by
  unfold subgraphRemove subgraphKeep
  show (keptNodes g rmNodes).map _ = (keptNodes g rmNodes).map _
  apply List.map_congr_left
  intro old hold
  have hf : (keptEdges g rmNodes rmEdges).filter (fun (p : Nat × Nat) => p.1 == old) =
      (keptIdx g rmNodes rmEdges old).map fun j => (old, j) :=
    filter_flatMap_fst_nodup _ (keptNodes_nodup g rmNodes) _ old hold
  have hf' : (keptEdges g rmNodes rmEdges).filter (fun (x : Nat × Nat) => match x with | (u, _) => u == old) =
      (keptIdx g rmNodes rmEdges old).map fun j => (old, j) := hf
  -- with the edges of `old` identified as its `keptIdx`, the two triples are the same maps over it
  simp only [hf', List.map_map]
  simp [keptNodes, keptIdx, Function.comp_def]

/-- Membership in `keptEdges`: exactly the `(u, j)` with `u` a kept node, `j` a valid edge
index of `u`, the target `out g u [j]` not removed, and the edge `(u, j)` not removed. -/
theorem mem_keptEdges (g : G) (rmNodes : List Nat) (rmEdges : List (Nat × Nat)) (u j : Nat) :
    (u, j) ∈ keptEdges g rmNodes rmEdges ↔
      u ∈ keptNodes g rmNodes ∧ j < (out g u).length ∧ (out g u).getD j 0 ∉ rmNodes ∧
        (u, j) ∉ rmEdges := by
  simp only [keptEdges, keptIdx, List.mem_flatMap, List.mem_map, List.mem_filter, List.mem_range,
    Prod.mk.injEq, Bool.and_eq_true, Bool.not_eq_true', List.contains_eq_mem, decide_eq_false_iff_not]
  constructor
  · rintro ⟨a, ha, b, ⟨hb, h1, h2⟩, rfl, rfl⟩
    exact ⟨ha, hb, h1, h2⟩
  · rintro ⟨ha, hb, h1, h2⟩
    exact ⟨u, ha, j, ⟨hb, h1, h2⟩, rfl, rfl⟩

/-- Membership in `keptNodes`: the nodes of `g` not listed in `rmNodes`. -/
theorem mem_keptNodes (g : G) (rmNodes : List Nat) (u : Nat) :
    u ∈ keptNodes g rmNodes ↔ u < g.size ∧ u ∉ rmNodes := by
  simp [keptNodes]

/-- `keptEdges` is listed in strictly increasing lexicographic order (node first, then edge
index), so together with `mem_keptEdges` it is uniquely determined. -/
theorem keptEdges_sorted (g : G) (rmNodes : List Nat) (rmEdges : List (Nat × Nat)) :
    (keptEdges g rmNodes rmEdges).Pairwise fun p q => p.1 < q.1 ∨ (p.1 = q.1 ∧ p.2 < q.2) := by
  unfold keptEdges
  rw [List.pairwise_flatMap]
  constructor
  · intro u _
    rw [List.pairwise_map]
    have : (keptIdx g rmNodes rmEdges u).Pairwise (· < ·) :=
      List.Pairwise.filter _ List.pairwise_lt_range
    exact this.imp fun h => Or.inr ⟨rfl, h⟩
  · have : (keptNodes g rmNodes).Pairwise (· < ·) :=
      List.Pairwise.filter _ List.pairwise_lt_range
    refine this.imp ?_
    intro a b hab p hp q hq
    obtain ⟨_, _, rfl⟩ := List.mem_map.1 hp
    obtain ⟨_, _, rfl⟩ := List.mem_map.1 hq
    exact Or.inl hab

example : subgraphRemove #[[1, 2, 1], [2, 0], [0, 1, 2]] [1] [(2, 0)] = [([1], 0, [1]), ([1], 2, [2])] := by
  decide
example : keptEdges #[[1, 2, 1], [2, 0], [0, 1, 2]] [1] [(2, 0)] = [(0, 1), (2, 2)] := by decide
example : subgraphRemove #[[1, 2, 1], [2, 0], [0, 1, 2]] [1] [(2, 0)] =
    subgraphKeep #[[1, 2, 1], [2, 0], [0, 1, 2]] [0, 2] [(0, 1), (2, 2)] :=
  subgraphRemove_eq_keep _ _ _
example : (2, 2) ∈ keptEdges #[[1, 2, 1], [2, 0], [0, 1, 2]] [1] [(2, 0)] :=
  (mem_keptEdges _ _ _ 2 2).2 ⟨(mem_keptNodes _ _ 2).2 (by decide), by decide, by decide, by decide⟩
example : (2, 0) ∉ keptEdges #[[1, 2, 1], [2, 0], [0, 1, 2]] [1] [(2, 0)] :=
  fun h => ((mem_keptEdges _ _ _ 2 0).1 h).2.2.2 (by decide)
example : (keptEdges #[[1, 2, 1], [2, 0], [0, 1, 2]] [1] [(2, 0)]).Pairwise
    fun p q => p.1 < q.1 ∨ (p.1 = q.1 ∧ p.2 < q.2) := keptEdges_sorted _ _ _

/-- NodeMap translates back to the original identifiers: the recorded old node of the `i`-th
new node is the `i`-th entry of `nodes`. -/
theorem subgraphKeep_nodeMap (g : G) (nodes : List Nat) (edges : List (Nat × Nat)) :
    (subgraphKeep g nodes edges).map (·.2.1) = nodes := by
  simp [subgraphKeep, Function.comp_def]

/-- Each new node has exactly one out-edge per recorded old edge index. -/
theorem subgraphKeep_out_length (g : G) (nodes : List Nat) (edges : List (Nat × Nat)) :
    ∀ r ∈ subgraphKeep g nodes edges, r.1.length = r.2.2.length := by
  intro r hr
  simp only [subgraphKeep, List.mem_map] at hr
  obtain ⟨old, _, rfl⟩ := hr
  simp

lemma indexOf_go_spec (l : List Nat) (x i k : Nat) (h : indexOf?.go x l i = some k) :
    i ≤ k ∧ l[k - i]? = some x := by
  induction l generalizing i with
  | nil => simp [indexOf?.go] at h
  | cons y r ih =>
    simp only [indexOf?.go] at h
    split_ifs at h with hy
    · simp only [Option.some.injEq] at h
      subst h
      simp only [beq_iff_eq] at hy
      simp [hy]
    · obtain ⟨h1, h2⟩ := ih (i + 1) h
      refine ⟨by omega, ?_⟩
      have : k - i = (k - (i + 1)) + 1 := by omega
      rw [this, List.getElem?_cons_succ]
      exact h2

lemma indexOf_go_some (l : List Nat) (x i : Nat) (h : x ∈ l) : ∃ k, indexOf?.go x l i = some k := by
  induction l generalizing i with
  | nil => simp at h
  | cons y r ih =>
    simp only [indexOf?.go]
    split_ifs with hy
    · exact ⟨i, rfl⟩
    · apply ih
      rcases List.mem_cons.1 h with rfl | h
      · simp at hy
      · exact h

/-- `indexOf?` finds a position holding `x`: if it answers `k` then `l[k] = x`. -/
theorem indexOf_spec (l : List Nat) (x k : Nat) (h : indexOf? l x = some k) : l[k]? = some x := by
  have := (indexOf_go_spec l x 0 k h).2
  simpa using this

/-- `indexOf?` succeeds on members. -/
theorem indexOf_some (l : List Nat) (x : Nat) (h : x ∈ l) : ∃ k, indexOf? l x = some k :=
  indexOf_go_some l x 0 h

/-- New edge targets translate back through NodeMap: in `subgraphKeep g nodes edges`, for the
new node built from `old`, the `k`-th new out-target `t'` and the `k`-th recorded old edge index
`e` satisfy `nodes[t'] = out g old [e]`, whenever that old target is itself a kept node. -/
theorem subgraphKeep_edge (g : G) (nodes : List Nat) (edges : List (Nat × Nat))
    (r : List Nat × Nat × List Nat) (hr : r ∈ subgraphKeep g nodes edges) (k : Nat)
    (hk : k < r.2.2.length) (hin : (out g r.2.1).getD (r.2.2.getD k 0) 0 ∈ nodes) :
    nodes[r.1.getD k 0]? = some ((out g r.2.1).getD (r.2.2.getD k 0) 0) := by
  simp only [subgraphKeep, List.mem_map] at hr
  obtain ⟨old, _, rfl⟩ := hr
  simp only [List.length_map] at hk
  generalize hes : edges.filter (fun x => match x with | (u, _) => u == old) = es at *
  have hmem : es[k] ∈ edges.filter (fun x => match x with | (u, _) => u == old) := by
    rw [hes]; exact List.getElem_mem hk
  rcases hek : es[k] with ⟨u, e⟩
  have hfst : u = old := by
    have := (List.mem_filter.1 hmem).2
    rw [hek] at this
    simpa using this
  subst hfst
  simp only [List.getD_eq_getElem?_getD, List.getElem?_map, List.getElem?_eq_getElem hk, hek,
    Option.map_some, Option.getD_some] at hin ⊢
  obtain ⟨t', ht'⟩ := indexOf_some nodes _ hin
  rw [ht', Option.getD_some]
  exact indexOf_spec _ _ _ ht'

example : subgraphKeep #[[1, 2, 1], [2, 0], [0, 1, 2]] [2, 0] [(0, 1), (2, 2), (2, 0)] =
    [([0, 1], 2, [2, 0]), ([0], 0, [1])] := by decide
example : (subgraphKeep #[[1, 2, 1], [2, 0], [0, 1, 2]] [2, 0] [(0, 1), (2, 2), (2, 0)]).map (·.2.1) = [2, 0] :=
  subgraphKeep_nodeMap _ _ _
example : ([2, 0] : List Nat)[([0, 1] : List Nat).getD 1 0]? = some ((out (#[[1, 2, 1], [2, 0], [0, 1, 2]] : G) 2).getD 0 0) :=
  subgraphKeep_edge #[[1, 2, 1], [2, 0], [0, 1, 2]] [2, 0] [(0, 1), (2, 2), (2, 0)]
    ([0, 1], 2, [2, 0]) (by decide) 1 (by decide) (by decide)

example : ∀ r ∈ subgraphKeep #[[1, 2, 1], [2, 0], [0, 1, 2]] [2, 0] [(0, 1), (2, 2), (2, 0)],
    r.1.length = r.2.2.length := subgraphKeep_out_length _ _ _
example : indexOf? [4, 7, 9, 7] 7 = some 1 := by decide
example : ([4, 7, 9, 7] : List Nat)[1]? = some 7 := indexOf_spec [4, 7, 9, 7] 7 1 (by decide)
example : ∃ k, indexOf? [4, 7, 9, 7] 9 = some k := indexOf_some _ _ (by decide)

end MV.Graph
