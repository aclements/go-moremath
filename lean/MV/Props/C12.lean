import Mathlib.Tactic
import Mathlib.MeasureTheory.Integral.IntervalIntegral.FundThmCalculus
import Mathlib.Analysis.Calculus.Deriv.Mul
import Mathlib.Analysis.Calculus.Deriv.Add
import MV.Model.KDE
/-!
# C12 — kernel density estimates

Property theorems about the executable model `MV/Model/KDE.lean`.
-/
namespace MV.KDE

/-! ## K1 — kernel facts over ℚ -/

/-- the cubic `(1/4)(2 + 3t − t³)` that the Epanechnikov CDF follows on `[-1,1]` -/
def cubic {K : Type*} [Field K] (t : K) : K := (1 / 4) * (2 + 3 * t - t * t * t)

lemma cubic_mono_on {s t : ℚ} (hs : -1 ≤ s) (hst : s ≤ t) (ht : t ≤ 1) : cubic s ≤ cubic t := by
  have hs1 : s ≤ 1 := hst.trans ht
  have ht1 : -1 ≤ t := hs.trans hst
  -- `cubic t - cubic s = (t - s) (3 - (t² + t s + s²)) / 4`, and `t², t s, s² ≤ 1`
  have h : 0 ≤ (t - s) * (3 - (t * t + t * s + s * s)) :=
    mul_nonneg (sub_nonneg.2 hst) (by
      linarith [mul_nonneg (sub_nonneg.2 ht) (neg_le_iff_add_nonneg'.1 ht1),
        mul_nonneg (sub_nonneg.2 hs1) (neg_le_iff_add_nonneg'.1 hs),
        mul_nonneg (sub_nonneg.2 ht) (neg_le_iff_add_nonneg'.1 hs),
        mul_nonneg (sub_nonneg.2 hs1) (neg_le_iff_add_nonneg'.1 ht1)])
  unfold cubic
  linarith

/-- clamp to `[-1,1]` -/
def clamp1 {K : Type*} [Field K] [LinearOrder K] (t : K) : K := max (-1) (min 1 t)

section clamp
variable {K : Type*} [Field K] [LinearOrder K] [IsStrictOrderedRing K]

omit [IsStrictOrderedRing K] in
lemma clamp1_mono : Monotone (clamp1 : K → K) := fun _ _ hab =>
  max_le_max le_rfl (min_le_min le_rfl hab)

lemma clamp1_mem (t : K) : -1 ≤ clamp1 t ∧ clamp1 t ≤ 1 :=
  ⟨le_max_left _ _, max_le (by norm_num) (min_le_left _ _)⟩

lemma clamp1_of_le {t : K} (h : t ≤ -1) : clamp1 t = -1 := by
  unfold clamp1; rw [min_eq_right (h.trans (by norm_num)), max_eq_left h]

omit [IsStrictOrderedRing K] in
lemma clamp1_of_mem {t : K} (h1 : -1 ≤ t) (h2 : t ≤ 1) : clamp1 t = t := by
  unfold clamp1; rw [min_eq_right h2, max_eq_right h1]

lemma clamp1_of_ge {t : K} (h : 1 ≤ t) : clamp1 t = 1 := by
  unfold clamp1; rw [min_eq_left h, max_eq_right (by norm_num)]

lemma cubic_neg_one : cubic (-1 : K) = 0 := by unfold cubic; norm_num

lemma cubic_one : cubic (1 : K) = 1 := by unfold cubic; norm_num

/-- The three branches of the Epanechnikov CDF (over ℚ and over ℝ alike) are the cubic at the
clamped argument. -/
lemma epanCDF_formula_eq_cubic {h : K} (hh : 0 < h) (u : K) :
    (if u > h then 1
      else if u > -h then (1 / 4) * (2 + 3 * (u / h) - (u / h) * (u / h) * (u / h)) else 0)
      = cubic (clamp1 (u / h)) := by
  split_ifs with h1 h2
  · rw [clamp1_of_ge ((one_le_div hh).2 h1.le), cubic_one]
  · rw [clamp1_of_mem (by rw [le_div_iff₀ hh]; linarith) ((div_le_one hh).2 (not_lt.1 h1))]
    rfl
  · rw [clamp1_of_le (by rw [div_le_iff₀ hh]; linarith), cubic_neg_one]

lemma mul_self_div_le_one {h u : K} (hh : 0 < h) (h1 : -h ≤ u) (h2 : u ≤ h) :
    u * u / (h * h) ≤ 1 :=
  (div_le_one (mul_pos hh hh)).2 (mul_self_le_mul_self_of_le_of_neg_le h2 (neg_le.1 h1))

lemma one_le_mul_self_div {h u : K} (hh : 0 < h) (hu : u ≤ -h ∨ h ≤ u) :
    1 ≤ u * u / (h * h) := by
  rw [one_le_div (mul_pos hh hh)]
  rcases hu with hu | hu
  · rw [← neg_mul_neg u u]; exact mul_self_le_mul_self hh.le (le_neg.1 hu)
  · exact mul_self_le_mul_self hh.le hu

end clamp

lemma epanCDF_eq_cubic {h : ℚ} (hh : 0 < h) (u : ℚ) : epanCDF h u = cubic (clamp1 (u / h)) :=
  epanCDF_formula_eq_cubic hh u

/-- The Epanechnikov kernel density is nonnegative everywhere (bandwidth `h > 0`). -/
theorem epanPDF_nonneg {h : ℚ} (hh : 0 < h) (u : ℚ) : 0 ≤ epanPDF h u := by
  unfold epanPDF
  split_ifs with hc
  · exact mul_nonneg (div_pos (by norm_num) hh).le
      (sub_nonneg.2 (mul_self_div_le_one hh hc.1.le hc.2.le))
  · exact le_rfl

example : 0 ≤ epanPDF 2 (1/2) ∧ epanPDF 2 (1/2) = 45/128 := by
  refine ⟨epanPDF_nonneg (by norm_num) _, by decide +kernel⟩

/-- The Epanechnikov kernel density vanishes outside `(-h, h)`. -/
theorem epanPDF_eq_zero {h u : ℚ} (hu : u ≤ -h ∨ h ≤ u) : epanPDF h u = 0 :=
  if_neg fun hc => hu.elim (not_le.2 hc.1) (not_le.2 hc.2)

example : epanPDF 2 (-2) = 0 := epanPDF_eq_zero (Or.inl le_rfl)

/-- The Epanechnikov kernel CDF is monotone (bandwidth `h > 0`). -/
theorem epanCDF_mono {h : ℚ} (hh : 0 < h) : Monotone (epanCDF h) := by
  intro a b hab
  rw [epanCDF_eq_cubic hh, epanCDF_eq_cubic hh]
  exact cubic_mono_on (clamp1_mem _).1 (clamp1_mono (div_le_div_of_nonneg_right hab hh.le))
    (clamp1_mem _).2

example : epanCDF 2 (-1) ≤ epanCDF 2 (1/2) := epanCDF_mono (by norm_num) (by norm_num)

/-- The Epanechnikov kernel CDF is `0` at and below `-h`. -/
theorem epanCDF_eq_zero {h u : ℚ} (hh : 0 < h) (hu : u ≤ -h) : epanCDF h u = 0 := by
  rw [epanCDF_eq_cubic hh, clamp1_of_le ((div_le_iff₀ hh).2 (by linarith)), cubic_neg_one]

example : epanCDF 2 (-2) = 0 := epanCDF_eq_zero (by norm_num) le_rfl

/-- The Epanechnikov kernel CDF is `1` at and above `h` (the value at the join `u = h`,
which is computed by the cubic branch, is `1` too). -/
theorem epanCDF_eq_one {h u : ℚ} (hh : 0 < h) (hu : h ≤ u) : epanCDF h u = 1 := by
  rw [epanCDF_eq_cubic hh, clamp1_of_ge ((one_le_div hh).2 hu), cubic_one]

example : epanCDF 2 2 = 1 ∧ epanCDF 2 5 = 1 :=
  ⟨epanCDF_eq_one (by norm_num) le_rfl, epanCDF_eq_one (by norm_num) (by norm_num)⟩

/-- The Epanechnikov kernel CDF takes values in `[0,1]`. -/
theorem epanCDF_range {h : ℚ} (hh : 0 < h) (u : ℚ) : 0 ≤ epanCDF h u ∧ epanCDF h u ≤ 1 := by
  obtain ⟨h1, h2⟩ := clamp1_mem (u / h)
  rw [epanCDF_eq_cubic hh]
  exact ⟨cubic_neg_one.symm.trans_le (cubic_mono_on le_rfl h1 h2),
    (cubic_mono_on h1 h2 le_rfl).trans_eq cubic_one⟩

example : 0 ≤ epanCDF 2 (1/2) ∧ epanCDF 2 (1/2) ≤ 1 := epanCDF_range (by norm_num) _

/-- Continuity at the joins: the cubic branch of the CDF evaluates to `0` at `u = -h` and to
`1` at `u = h`, i.e. it agrees with the constant branches on both sides, and the density's
parabola branch evaluates to `0` at both joins. -/
theorem epan_joins {h : ℚ} (hh : 0 < h) :
    (1 / 4 : ℚ) * (2 + 3 * (-h / h) - (-h / h) * (-h / h) * (-h / h)) = 0 ∧
    (1 / 4 : ℚ) * (2 + 3 * (h / h) - (h / h) * (h / h) * (h / h)) = 1 ∧
    epanCDF h (-h) = 0 ∧ epanCDF h h = 1 ∧
    (3 / 4 : ℚ) / h * (1 - (-h) * (-h) / (h * h)) = 0 ∧ (3 / 4 : ℚ) / h * (1 - h * h / (h * h)) = 0 ∧
    epanPDF h (-h) = 0 ∧ epanPDF h h = 0 := by
  have hne : h ≠ 0 := hh.ne'
  refine ⟨?_, ?_, epanCDF_eq_zero hh le_rfl, epanCDF_eq_one hh le_rfl, ?_, ?_,
    epanPDF_eq_zero (Or.inl le_rfl), epanPDF_eq_zero (Or.inr le_rfl)⟩
  · rw [neg_div, div_self hne]; norm_num
  · rw [div_self hne]; norm_num
  · rw [neg_mul_neg, div_self (mul_self_ne_zero.2 hne), sub_self, mul_zero]
  · rw [div_self (mul_self_ne_zero.2 hne), sub_self, mul_zero]

example : epanCDF 3 (-3) = 0 ∧ epanCDF 3 3 = 1 :=
  ⟨(epan_joins (by norm_num)).2.2.1, (epan_joins (by norm_num)).2.2.2.1⟩

/-! ## K1 (continued) — the same kernel over ℝ and the fundamental theorem of calculus -/

/-- `epanPDF` with the same formula over ℝ -/
noncomputable def epanPDFr (h u : ℝ) : ℝ :=
  if -h < u ∧ u < h then (3 / 4) / h * (1 - u * u / (h * h)) else 0

/-- `epanCDF` with the same formula over ℝ -/
noncomputable def epanCDFr (h u : ℝ) : ℝ :=
  if u > h then 1 else if u > -h then (1 / 4) * (2 + 3 * (u / h) - (u / h) * (u / h) * (u / h)) else 0

/-- The real-valued density `epanPDFr` restricted to rational arguments is the cast of the
model's `epanPDF`. -/
theorem epanPDFr_cast (h u : ℚ) : ((epanPDF h u : ℚ) : ℝ) = epanPDFr h u :=
  (apply_ite _ _ _ _).trans (if_congr (by norm_cast) (by push_cast; ring) Rat.cast_zero)

example : epanPDFr 2 (1/2) = 45/128 := by
  have := epanPDFr_cast 2 (1/2)
  have e : epanPDF 2 (1/2) = 45/128 := by decide +kernel
  rw [e] at this; push_cast at this; rw [← this]

/-- The real-valued CDF `epanCDFr` restricted to rational arguments is the cast of the
model's `epanCDF`. -/
theorem epanCDFr_cast (h u : ℚ) : ((epanCDF h u : ℚ) : ℝ) = epanCDFr h u :=
  (apply_ite _ _ _ _).trans (if_congr (by norm_cast) Rat.cast_one
    ((apply_ite _ _ _ _).trans (if_congr (by norm_cast) (by push_cast; ring) Rat.cast_zero)))

example : epanCDFr 2 (1/2) = 175/256 := by
  have := epanCDFr_cast 2 (1/2)
  have e : epanCDF 2 (1/2) = 175/256 := by decide +kernel
  rw [e] at this; push_cast at this; rw [← this]

lemma epanCDFr_eq_cubic {h : ℝ} (hh : 0 < h) (u : ℝ) : epanCDFr h u = cubic (clamp1 (u / h)) :=
  epanCDF_formula_eq_cubic hh u

lemma epanPDFr_eq_max {h : ℝ} (hh : 0 < h) (u : ℝ) :
    epanPDFr h u = max 0 ((3 / 4) / h * (1 - u * u / (h * h))) := by
  have hpos : 0 ≤ 3 / 4 / h := (div_pos (by norm_num) hh).le
  unfold epanPDFr
  split_ifs with hc
  · exact (max_eq_right (mul_nonneg hpos
      (sub_nonneg.2 (mul_self_div_le_one hh hc.1.le hc.2.le)))).symm
  · rw [not_and_or, not_lt, not_lt] at hc
    exact (max_eq_left (mul_nonpos_of_nonneg_of_nonpos hpos
      (sub_nonpos.2 (one_le_mul_self_div hh hc)))).symm

/-- The real-valued Epanechnikov CDF is continuous (in particular at the joins `u = ±h`). -/
theorem epanCDFr_continuous {h : ℝ} (hh : 0 < h) : Continuous (epanCDFr h) := by
  have : epanCDFr h = fun u => cubic (clamp1 (u / h)) := funext (epanCDFr_eq_cubic hh)
  rw [this]; unfold cubic clamp1
  fun_prop

example : Continuous (epanCDFr 2) := epanCDFr_continuous (by norm_num)

/-- The real-valued Epanechnikov density is continuous (in particular at the joins `u = ±h`). -/
theorem epanPDFr_continuous {h : ℝ} (hh : 0 < h) : Continuous (epanPDFr h) := by
  have : epanPDFr h = fun u => max 0 ((3 / 4) / h * (1 - u * u / (h * h))) :=
    funext (epanPDFr_eq_max hh)
  rw [this]
  fun_prop

example : Continuous (epanPDFr 2) := epanPDFr_continuous (by norm_num)

lemma hasDerivAt_cubic_div (h u : ℝ) :
    HasDerivAt (fun u : ℝ => (1 / 4 : ℝ) * (2 + 3 * (u / h) - (u / h) * (u / h) * (u / h)))
      ((3 / 4) / h * (1 - u * u / (h * h))) u := by
  have d : HasDerivAt (fun u : ℝ => u / h) (1 / h) u := by
    simpa using (hasDerivAt_id u).div_const h
  refine ((((d.const_mul 3).const_add 2).sub ((d.fun_mul d).fun_mul d)).const_mul
    (1 / 4 : ℝ)).congr_deriv ?_
  by_cases hh : h = 0
  · subst hh; simp
  · field_simp; ring

lemma epanCDFr_of_mid {h u : ℝ} (hh : 0 < h) (h1 : -h ≤ u) (h2 : u ≤ h) :
    epanCDFr h u = (1 / 4) * (2 + 3 * (u / h) - (u / h) * (u / h) * (u / h)) := by
  rw [epanCDFr_eq_cubic hh,
    clamp1_of_mem (by rw [le_div_iff₀ hh]; linarith) ((div_le_one hh).2 h2)]
  rfl

lemma epanCDFr_of_ge {h u : ℝ} (hh : 0 < h) (h2 : h ≤ u) : epanCDFr h u = 1 := by
  rw [epanCDFr_eq_cubic hh, clamp1_of_ge ((one_le_div hh).2 h2), cubic_one]

lemma epanCDFr_of_le {h u : ℝ} (hh : 0 < h) (h2 : u ≤ -h) : epanCDFr h u = 0 := by
  rw [epanCDFr_eq_cubic hh, clamp1_of_le (by rw [div_le_iff₀ hh]; linarith), cubic_neg_one]

lemma epanPDFr_of_out {h u : ℝ} (hu : u ≤ -h ∨ h ≤ u) : epanPDFr h u = 0 :=
  if_neg fun hc => hu.elim (not_le.2 hc.1) (not_le.2 hc.2)

/-- Fundamental theorem, pointwise form, away from the joins: for `u ≠ ±h` the real-valued
Epanechnikov CDF is differentiable at `u` with derivative the density. (`h > 0`.) -/
theorem epanCDFr_hasDerivAt_of_ne {h : ℝ} (hh : 0 < h) {u : ℝ} (h1 : u ≠ -h) (h2 : u ≠ h) :
    HasDerivAt (epanCDFr h) (epanPDFr h u) u := by
  rcases lt_or_gt_of_ne h1 with h1 | h1
  · rw [epanPDFr_of_out (Or.inl h1.le)]
    refine (hasDerivAt_const u (0 : ℝ)).congr_of_eventuallyEq ?_
    filter_upwards [eventually_lt_nhds h1] with y hy
    exact epanCDFr_of_le hh hy.le
  rcases lt_or_gt_of_ne h2 with h2 | h2
  · rw [show epanPDFr h u = _ from if_pos ⟨h1, h2⟩]
    refine (hasDerivAt_cubic_div h u).congr_of_eventuallyEq ?_
    filter_upwards [eventually_gt_nhds h1, eventually_lt_nhds h2] with y hy1 hy2
    exact epanCDFr_of_mid hh hy1.le hy2.le
  · rw [epanPDFr_of_out (Or.inr h2.le)]
    refine (hasDerivAt_const u (1 : ℝ)).congr_of_eventuallyEq ?_
    filter_upwards [eventually_gt_nhds h2] with y hy
    exact epanCDFr_of_ge hh hy.le

example : HasDerivAt (epanCDFr 2) (epanPDFr 2 3) 3 :=
  epanCDFr_hasDerivAt_of_ne (by norm_num) (by norm_num) (by norm_num)

/-- A function that agrees near `a` with `F` on the left and with `G` on the right, where `F` and
`G` have the same derivative at `a`, has that derivative at `a`. -/
lemma hasDerivAt_of_glue {f F G : ℝ → ℝ} {a d : ℝ} (hF : HasDerivAt F d a) (hG : HasDerivAt G d a)
    (hl : ∀ᶠ y in nhds a, y ≤ a → f y = F y) (hr : ∀ᶠ y in nhds a, a ≤ y → f y = G y) :
    HasDerivAt f d a := by
  rw [← hasDerivWithinAt_univ, ← Set.Iic_union_Ici (a := a)]
  exact (hF.hasDerivWithinAt.congr_of_eventuallyEq
      (eventually_nhdsWithin_iff.2 hl) (hl.self_of_nhds le_rfl)).union
    (hG.hasDerivWithinAt.congr_of_eventuallyEq
      (eventually_nhdsWithin_iff.2 hr) (hr.self_of_nhds le_rfl))

/-- Fundamental theorem, pointwise form, everywhere: the real-valued Epanechnikov CDF is
differentiable at every `u` (including the joins `u = ±h`, where both one-sided derivatives
are `0`) with derivative the density. (`h > 0`.) -/
theorem epanCDFr_hasDerivAt {h : ℝ} (hh : 0 < h) (u : ℝ) :
    HasDerivAt (epanCDFr h) (epanPDFr h u) u := by
  have hmid : ∀ a, a * a = h * h → HasDerivAt
      (fun u : ℝ => (1 / 4 : ℝ) * (2 + 3 * (u / h) - (u / h) * (u / h) * (u / h))) 0 a := fun a ha =>
    (hasDerivAt_cubic_div h a).congr_deriv
      (by rw [ha, div_self (mul_self_ne_zero.2 hh.ne'), sub_self, mul_zero])
  by_cases h1 : u = -h
  · subst h1
    rw [epanPDFr_of_out (Or.inl le_rfl)]
    exact hasDerivAt_of_glue (hasDerivAt_const _ (0 : ℝ)) (hmid _ (neg_mul_neg h h))
      (.of_forall fun y hy => epanCDFr_of_le hh hy)
      ((eventually_lt_nhds (neg_lt_self hh)).mono fun y hy1 hy2 => epanCDFr_of_mid hh hy2 hy1.le)
  by_cases h2 : u = h
  · subst h2
    rw [epanPDFr_of_out (Or.inr le_rfl)]
    exact hasDerivAt_of_glue (hmid _ rfl) (hasDerivAt_const _ (1 : ℝ))
      ((eventually_gt_nhds (neg_lt_self hh)).mono fun y hy1 hy2 => epanCDFr_of_mid hh hy1.le hy2)
      (.of_forall fun y hy => epanCDFr_of_ge hh hy)
  exact epanCDFr_hasDerivAt_of_ne hh h1 h2

example : HasDerivAt (epanCDFr 2) (epanPDFr 2 (1/2)) (1/2) := epanCDFr_hasDerivAt (by norm_num) _

/-- The integral of the Epanechnikov density over any interval equals the difference of the
CDF at the endpoints (interval integral over ℝ, for `a`, `b` in either order). -/
theorem epan_integral {h : ℝ} (hh : 0 < h) (a b : ℝ) :
    ∫ u in a..b, epanPDFr h u = epanCDFr h b - epanCDFr h a :=
  intervalIntegral.integral_eq_sub_of_hasDerivAt (fun x _ => epanCDFr_hasDerivAt hh x)
    ((epanPDFr_continuous hh).intervalIntegrable a b)

/-- The Epanechnikov density integrates to one over its support `[-h, h]`. -/
theorem epan_integral_support {h : ℝ} (hh : 0 < h) : ∫ u in (-h)..h, epanPDFr h u = 1 := by
  rw [epan_integral hh, epanCDFr_of_ge hh le_rfl, epanCDFr_of_le hh le_rfl]; norm_num

example : ∫ u in (-1 : ℝ)..(1/2), epanPDFr 2 u = 175/256 - 5/32 := by
  rw [epan_integral (by norm_num)]
  have e1 := epanCDFr_cast 2 (1/2)
  have e2 := epanCDFr_cast 2 (-1)
  have v1 : epanCDF 2 (1/2) = 175/256 := by decide +kernel
  have v2 : epanCDF 2 (-1) = 5/32 := by decide +kernel
  rw [v1] at e1; rw [v2] at e2; push_cast at e1 e2
  rw [← e1, ← e2]

/-! ## K2 — weighted averages -/

lemma sum_eq (xs : List ℚ) : sum xs = xs.sum := List.sum_eq_foldl.symm

lemma wavg_eq (f : ℚ → ℚ) (xs ws : List ℚ) (x : ℚ) :
    wavg f xs ws x = ((xs.zip ws).map (fun p => p.2 * f (x - p.1))).sum / ws.sum := by
  unfold wavg; rw [sum_eq, sum_eq]

lemma zip_w_nonneg {xs ws : List ℚ} (hw : ∀ w ∈ ws, 0 ≤ w) : ∀ p ∈ xs.zip ws, 0 ≤ p.2 := by
  rintro ⟨a, b⟩ hp; exact hw b (List.of_mem_zip hp).2

lemma zip_snd_sum_le {ws : List ℚ} (hw : ∀ w ∈ ws, 0 ≤ w) (xs : List ℚ) :
    ((xs.zip ws).map Prod.snd).sum ≤ ws.sum := by
  induction xs generalizing ws with
  | nil => simpa using List.sum_nonneg hw
  | cons a xs ih =>
    cases ws with
    | nil => simp
    | cons w ws =>
      simp only [List.zip_cons_cons, List.map_cons, List.sum_cons]
      have := ih (ws := ws) (fun w hw' => hw w (List.mem_cons_of_mem _ hw'))
      linarith

/-- weights are all positive (decidable) -/
def PosW (ws : List ℚ) : Prop := ∀ w ∈ ws, 0 < w

instance (ws : List ℚ) : Decidable (PosW ws) := by unfold PosW; infer_instance

lemma PosW.nonneg {ws : List ℚ} (h : PosW ws) : ∀ w ∈ ws, 0 ≤ w := fun w hw => (h w hw).le

lemma sum_pos_of_posW {ws : List ℚ} (h : PosW ws) (hne : ws ≠ []) : 0 < sum ws := by
  rw [sum_eq]; exact List.sum_pos _ h hne

example : PosW [1, 2, (1/2 : ℚ)] := by decide +kernel

/-- A weighted average (nonnegative weights) of a nonnegative function is nonnegative. -/
theorem wavg_nonneg {f : ℚ → ℚ} {xs ws : List ℚ} (hw : ∀ w ∈ ws, 0 ≤ w) (hf : ∀ u, 0 ≤ f u)
    (x : ℚ) : 0 ≤ wavg f xs ws x := by
  rw [wavg_eq]
  refine div_nonneg (List.sum_nonneg fun v hv => ?_) (List.sum_nonneg hw)
  obtain ⟨p, hp, rfl⟩ := List.mem_map.mp hv
  exact mul_nonneg (zip_w_nonneg hw p hp) (hf _)

example : 0 ≤ wavg (fun u => u * u) [0, 1, 3] [1, 2, 1] 2 :=
  wavg_nonneg (by decide) (fun u => mul_self_nonneg u) _

/-- A weighted average (nonnegative weights) of a monotone function is monotone in `x`. -/
theorem wavg_mono {f : ℚ → ℚ} {xs ws : List ℚ} (hw : ∀ w ∈ ws, 0 ≤ w) (hf : Monotone f) :
    Monotone (wavg f xs ws) := by
  intro a b hab
  rw [wavg_eq, wavg_eq]
  exact div_le_div_of_nonneg_right (List.sum_le_sum fun p hp =>
    mul_le_mul_of_nonneg_left (hf (sub_le_sub_right hab _)) (zip_w_nonneg hw p hp))
    (List.sum_nonneg hw)

example : wavg (fun u => 2 * u) [0, 1, 3] [1, 2, 1] 1 ≤ wavg (fun u => 2 * u) [0, 1, 3] [1, 2, 1] 2 :=
  wavg_mono (by decide) (fun a b h => by show (2:ℚ) * a ≤ 2 * b; linarith) (by norm_num)

/-- A weighted average (nonnegative weights) of a function with values in `[0,1]` has values
in `[0,1]`, also for lists of different lengths and for empty ones (the model's `0/0 = 0`). -/
theorem wavg_range {f : ℚ → ℚ} {xs ws : List ℚ} (hw : ∀ w ∈ ws, 0 ≤ w)
    (hf : ∀ u, 0 ≤ f u ∧ f u ≤ 1) (x : ℚ) : 0 ≤ wavg f xs ws x ∧ wavg f xs ws x ≤ 1 := by
  refine ⟨wavg_nonneg hw (fun u => (hf u).1) x, ?_⟩
  rw [wavg_eq]
  refine div_le_one_of_le₀ (le_trans (List.sum_le_sum (g := Prod.snd) fun p hp => ?_)
    (zip_snd_sum_le hw xs)) (List.sum_nonneg hw)
  exact mul_le_of_le_one_right (zip_w_nonneg hw p hp) (hf _).2

example : 0 ≤ wavg deltaCDF [0, 1, 3] [1, 2, 1] 2 ∧ wavg deltaCDF [0, 1, 3] [1, 2, 1] 2 ≤ 1 :=
  wavg_range (by decide) (fun u => by unfold deltaCDF; split_ifs <;> norm_num) _

/-- If `f (x − xᵢ) = g (x − xᵢ)` at every data point then the weighted averages agree at `x`. -/
theorem wavg_congr_at {f g : ℚ → ℚ} {xs : List ℚ} (ws : List ℚ) {x : ℚ}
    (hfg : ∀ xi ∈ xs, f (x - xi) = g (x - xi)) : wavg f xs ws x = wavg g xs ws x := by
  rw [wavg_eq, wavg_eq]
  congr 2
  exact List.map_congr_left fun p hp => by rw [hfg p.1 (List.of_mem_zip hp).1]

example : wavg (fun u => u * u) [0, 1, 3] [1, 2, 1] 2 = wavg (fun u => |u| * |u|) [0, 1, 3] [1, 2, 1] 2 :=
  wavg_congr_at _ (fun xi _ => by simp)

/-- If `f (x − xᵢ) = c` at every data point (equal-length lists, nonzero total weight) then
the weighted average at `x` is `c`. -/
theorem wavg_const_at {f : ℚ → ℚ} {xs ws : List ℚ} {x c : ℚ} (hlen : xs.length = ws.length)
    (hs : sum ws ≠ 0) (hf : ∀ xi ∈ xs, f (x - xi) = c) : wavg f xs ws x = c := by
  rw [wavg_congr_at (g := fun _ => c) ws hf, wavg_eq, List.sum_map_mul_right,
    List.map_snd_zip hlen.ge, mul_div_cancel_left₀ _ (sum_eq ws ▸ hs)]

example : wavg deltaCDF [0, 1, 3] [1, 2, 1] 4 = 1 :=
  wavg_const_at (xs := [0, 1, 3]) (ws := [1, 2, 1]) rfl (by decide +kernel) (by decide +kernel)

/-- A weighted average (equal-length lists, nonzero total weight) of the constant function `c`
is `c`. -/
theorem wavg_const {f : ℚ → ℚ} {xs ws : List ℚ} {c : ℚ} (hlen : xs.length = ws.length)
    (hs : sum ws ≠ 0) (hf : ∀ u, f u = c) (x : ℚ) : wavg f xs ws x = c :=
  wavg_const_at hlen hs (fun _ _ => hf _)

example : wavg (fun _ => 7) [0, 1, 3] [1, 2, 1] 2 = 7 :=
  wavg_const (xs := [0, 1, 3]) (ws := [1, 2, 1]) rfl (by decide +kernel) (fun _ => rfl) _

/-- If `f (x − xᵢ) = 0` at every data point, the weighted average at `x` is `0`
(no side conditions). -/
theorem wavg_zero_at {f : ℚ → ℚ} {xs : List ℚ} (ws : List ℚ) {x : ℚ}
    (hf : ∀ xi ∈ xs, f (x - xi) = 0) : wavg f xs ws x = 0 := by
  rw [wavg_congr_at (g := fun _ => 0) ws hf, wavg_eq]
  simp

example : wavg deltaCDF [0, 1, 3] [1, 2, 1] (-1) = 0 :=
  wavg_zero_at _ (by decide +kernel)

/-- The unbounded Epanechnikov density estimate is nonnegative. -/
theorem epanKDEpdf_none_nonneg {xs ws : List ℚ} {h : ℚ} (hh : 0 < h) (hw : ∀ w ∈ ws, 0 ≤ w)
    (n : ℕ) (x : ℚ) : 0 ≤ epanKDEpdf xs ws h .none n x :=
  wavg_nonneg hw (epanPDF_nonneg hh) x

example : 0 ≤ epanKDEpdf [0, 1, 3] [1, 2, 1] 2 .none 0 (3/2) :=
  epanKDEpdf_none_nonneg (by norm_num) (by decide) _ _

/-- The unbounded Epanechnikov CDF estimate is monotone. -/
theorem epanKDEcdf_none_mono {xs ws : List ℚ} {h : ℚ} (hh : 0 < h) (hw : ∀ w ∈ ws, 0 ≤ w)
    (n : ℕ) : Monotone (epanKDEcdf xs ws h .none n) :=
  wavg_mono hw (epanCDF_mono hh)

example : epanKDEcdf [0, 1, 3] [1, 2, 1] 2 .none 0 1 ≤ epanKDEcdf [0, 1, 3] [1, 2, 1] 2 .none 0 (3/2) :=
  epanKDEcdf_none_mono (by norm_num) (by decide) _ (by norm_num)

/-- The unbounded Epanechnikov CDF estimate has values in `[0,1]`. -/
theorem epanKDEcdf_none_range {xs ws : List ℚ} {h : ℚ} (hh : 0 < h) (hw : ∀ w ∈ ws, 0 ≤ w)
    (n : ℕ) (x : ℚ) :
    0 ≤ epanKDEcdf xs ws h .none n x ∧ epanKDEcdf xs ws h .none n x ≤ 1 :=
  wavg_range hw (epanCDF_range hh) x

example : 0 ≤ epanKDEcdf [0, 1, 3] [1, 2, 1] 2 .none 0 1 ∧ epanKDEcdf [0, 1, 3] [1, 2, 1] 2 .none 0 1 ≤ 1 :=
  epanKDEcdf_none_range (by norm_num) (by decide) _ _

/-- The unbounded Epanechnikov CDF estimate is `0` for `x ≤ min xs − h`
(stated as: `x ≤ xᵢ − h` for every data point). -/
theorem epanKDEcdf_none_eq_zero {xs : List ℚ} (ws : List ℚ) {h : ℚ} (hh : 0 < h) (n : ℕ) {x : ℚ}
    (hx : ∀ xi ∈ xs, x ≤ xi - h) : epanKDEcdf xs ws h .none n x = 0 :=
  wavg_zero_at ws fun xi hxi => epanCDF_eq_zero hh (by linarith [hx xi hxi])

example : epanKDEcdf [0, 1, 3] [1, 2, 1] 2 .none 0 (-2) = 0 :=
  epanKDEcdf_none_eq_zero _ (by norm_num) _ (by decide +kernel)

/-- The unbounded Epanechnikov CDF estimate is `1` for `x ≥ max xs + h`
(stated as: `xᵢ + h ≤ x` for every data point; equal-length lists, nonzero total weight). -/
theorem epanKDEcdf_none_eq_one {xs ws : List ℚ} {h : ℚ} (hh : 0 < h) (hlen : xs.length = ws.length)
    (hs : sum ws ≠ 0) (n : ℕ) {x : ℚ}
    (hx : ∀ xi ∈ xs, xi + h ≤ x) : epanKDEcdf xs ws h .none n x = 1 :=
  wavg_const_at hlen hs fun xi hxi => epanCDF_eq_one hh (by linarith [hx xi hxi])

example : epanKDEcdf [0, 1, 3] [1, 2, 1] 2 .none 0 5 = 1 :=
  epanKDEcdf_none_eq_one (xs := [0, 1, 3]) (ws := [1, 2, 1]) (h := 2) (by norm_num) rfl
    (by decide +kernel) _ (by decide +kernel)

/-- The unbounded Epanechnikov density estimate vanishes for `x ≤ min xs − h` or
`x ≥ max xs + h`. -/
theorem epanKDEpdf_none_eq_zero {xs : List ℚ} (ws : List ℚ) {h : ℚ} (n : ℕ) {x : ℚ}
    (hx : (∀ xi ∈ xs, x ≤ xi - h) ∨ (∀ xi ∈ xs, xi + h ≤ x)) :
    epanKDEpdf xs ws h .none n x = 0 := by
  refine wavg_zero_at ws fun xi hxi => epanPDF_eq_zero ?_
  rcases hx with hx | hx
  · left; linarith [hx xi hxi]
  · right; linarith [hx xi hxi]

example : epanKDEpdf [0, 1, 3] [1, 2, 1] 2 .none 0 5 = 0 :=
  epanKDEpdf_none_eq_zero _ _ (Or.inr (by decide +kernel))

/-! ## K3 — reflection at one boundary -/

/-- With a lower boundary the reflected CDF is exactly `0` at the boundary, for every `Y`. -/
theorem cdfB_lower_at_min (Y : ℚ → ℚ) (mn : ℚ) (n : ℕ) : cdfB ratOps Y (.lower mn) n mn = 0 := by
  simp only [cdfB, lt_self_iff_false, if_false, ratOps]
  rw [show 2 * mn - mn = mn by ring]; ring

example : cdfB ratOps (fun x => x * x + 1) (.lower 3) 2 3 = 0 := cdfB_lower_at_min _ _ _

/-- With a lower boundary the reflected CDF is `0` below the boundary (any value type). -/
theorem cdfB_lower_of_lt {α} (o : Ops α) (Y : ℚ → α) {mn x : ℚ} (n : ℕ) (hx : x < mn) :
    cdfB o Y (.lower mn) n x = o.zero := by
  simp only [cdfB, hx, if_true]

example : cdfB ratOps (fun x => x) (.lower 3) 2 1 = 0 := cdfB_lower_of_lt _ _ _ (by norm_num)

lemma cdfB_lower_of_ge (Y : ℚ → ℚ) {mn x : ℚ} (n : ℕ) (hx : mn ≤ x) :
    cdfB ratOps Y (.lower mn) n x = Y x - Y (2 * mn - x) := by
  simp only [cdfB, not_lt.mpr hx, if_false, ratOps]

/-- With a lower boundary and monotone `Y`, the reflected CDF is nonnegative everywhere. -/
theorem cdfB_lower_nonneg {Y : ℚ → ℚ} (hY : Monotone Y) (mn : ℚ) (n : ℕ) (x : ℚ) :
    0 ≤ cdfB ratOps Y (.lower mn) n x := by
  rcases lt_or_ge x mn with hx | hx
  · rw [cdfB_lower_of_lt _ _ _ hx]; exact le_rfl
  · rw [cdfB_lower_of_ge _ _ hx]
    have := hY (show 2 * mn - x ≤ x by linarith); linarith

example : 0 ≤ cdfB ratOps (epanCDF 2) (.lower 1) 0 (3/2) :=
  cdfB_lower_nonneg (epanCDF_mono (by norm_num)) _ _ _

/-- With a lower boundary and monotone `Y`, the reflected CDF is monotone on all of ℚ (it is `0`
below `mn`; on `[mn, ∞)` both `Y x` increases and `Y (2 mn − x)` decreases). -/
theorem cdfB_lower_mono {Y : ℚ → ℚ} (hY : Monotone Y) (mn : ℚ) (n : ℕ) :
    Monotone (cdfB ratOps Y (.lower mn) n) := by
  intro a b hab
  rcases lt_or_ge a mn with ha | ha
  · rw [cdfB_lower_of_lt _ _ _ ha]; exact cdfB_lower_nonneg hY mn n b
  · rw [cdfB_lower_of_ge _ _ ha, cdfB_lower_of_ge _ _ (ha.trans hab)]
    have h1 := hY hab
    have h2 := hY (show 2 * mn - b ≤ 2 * mn - a by linarith)
    linarith

/-- In particular it is monotone on `[mn, ∞)`, where the reflection acts. -/
theorem cdfB_lower_monoOn {Y : ℚ → ℚ} (hY : Monotone Y) (mn : ℚ) (n : ℕ) :
    MonotoneOn (cdfB ratOps Y (.lower mn) n) (Set.Ici mn) :=
  (cdfB_lower_mono hY mn n).monotoneOn _

example : cdfB ratOps (epanCDF 2) (.lower 1) 0 (3/2) ≤ cdfB ratOps (epanCDF 2) (.lower 1) 0 2 :=
  cdfB_lower_mono (epanCDF_mono (by norm_num)) _ _ (by norm_num)

/-- With a lower boundary and `Y` with values in `[0,1]`, the reflected CDF is at most `1`. -/
theorem cdfB_lower_le_one {Y : ℚ → ℚ} (hY : ∀ u, 0 ≤ Y u ∧ Y u ≤ 1) (mn : ℚ) (n : ℕ) (x : ℚ) :
    cdfB ratOps Y (.lower mn) n x ≤ 1 := by
  rcases lt_or_ge x mn with hx | hx
  · rw [cdfB_lower_of_lt _ _ _ hx]; exact zero_le_one
  · rw [cdfB_lower_of_ge _ _ hx]; linarith [(hY x).2, (hY (2 * mn - x)).1]

example : cdfB ratOps (epanCDF 2) (.lower 1) 0 (3/2) ≤ 1 :=
  cdfB_lower_le_one (epanCDF_range (by norm_num)) _ _ _

/-- With a lower boundary the reflected density is `0` below the boundary (any value type). -/
theorem pdfB_lower_of_lt {α} (o : Ops α) (y : ℚ → α) {mn x : ℚ} (n : ℕ) (hx : x < mn) :
    pdfB o y (.lower mn) n x = o.zero := by
  simp only [pdfB, hx, if_true]

example : pdfB ratOps (fun x => x) (.lower 3) 2 1 = 0 := pdfB_lower_of_lt _ _ _ (by norm_num)

/-- With a lower boundary and `y ≥ 0`, the reflected density is nonnegative. -/
theorem pdfB_lower_nonneg {y : ℚ → ℚ} (hy : ∀ u, 0 ≤ y u) (mn : ℚ) (n : ℕ) (x : ℚ) :
    0 ≤ pdfB ratOps y (.lower mn) n x := by
  simp only [pdfB, ratOps]
  split_ifs
  · exact le_rfl
  · exact add_nonneg (hy _) (hy _)

example : 0 ≤ pdfB ratOps (epanPDF 2) (.lower 1) 0 (3/2) :=
  pdfB_lower_nonneg (epanPDF_nonneg (by norm_num)) _ _ _

/-- With an upper boundary the reflected CDF is `1` from the boundary on (any value type). -/
theorem cdfB_upper_of_ge {α} (o : Ops α) (Y : ℚ → α) {mx x : ℚ} (n : ℕ) (hx : mx ≤ x) :
    cdfB o Y (.upper mx) n x = o.one := by
  simp only [cdfB, ge_iff_le, hx, if_true]

example : cdfB ratOps (fun x => x) (.upper 3) 2 3 = 1 := cdfB_upper_of_ge _ _ _ le_rfl

lemma cdfB_upper_of_lt (Y : ℚ → ℚ) {mx x : ℚ} (n : ℕ) (hx : x < mx) :
    cdfB ratOps Y (.upper mx) n x = Y x + (1 - Y (2 * mx - x)) := by
  simp only [cdfB, ge_iff_le, not_le.mpr hx, if_false, ratOps]

/-- With an upper boundary and monotone `Y`, the reflected CDF is at most `1` everywhere
(`Y x + 1 − Y (2 mx − x) ≤ 1` for `x ≤ mx`). -/
theorem cdfB_upper_le_one {Y : ℚ → ℚ} (hY : Monotone Y) (mx : ℚ) (n : ℕ) (x : ℚ) :
    cdfB ratOps Y (.upper mx) n x ≤ 1 := by
  rcases lt_or_ge x mx with hx | hx
  · rw [cdfB_upper_of_lt _ _ hx]
    have := hY (show x ≤ 2 * mx - x by linarith); linarith
  · rw [cdfB_upper_of_ge _ _ _ hx]; exact le_rfl

example : cdfB ratOps (epanCDF 2) (.upper 1) 0 (1/2) ≤ 1 :=
  cdfB_upper_le_one (epanCDF_mono (by norm_num)) _ _ _

/-- With an upper boundary and monotone `Y`, the reflected CDF is monotone on all of ℚ. -/
theorem cdfB_upper_mono {Y : ℚ → ℚ} (hY : Monotone Y) (mx : ℚ) (n : ℕ) :
    Monotone (cdfB ratOps Y (.upper mx) n) := by
  intro a b hab
  rcases lt_or_ge b mx with hb | hb
  · rw [cdfB_upper_of_lt _ _ hb, cdfB_upper_of_lt _ _ (lt_of_le_of_lt hab hb)]
    have h1 := hY hab
    have h2 := hY (show 2 * mx - b ≤ 2 * mx - a by linarith)
    linarith
  · rw [cdfB_upper_of_ge _ _ _ hb]; exact cdfB_upper_le_one hY mx n a

example : cdfB ratOps (epanCDF 2) (.upper 1) 0 0 ≤ cdfB ratOps (epanCDF 2) (.upper 1) 0 (1/2) :=
  cdfB_upper_mono (epanCDF_mono (by norm_num)) _ _ (by norm_num)

/-- With an upper boundary and `Y` with values in `[0,1]`, the reflected CDF is nonnegative. -/
theorem cdfB_upper_nonneg {Y : ℚ → ℚ} (hY : ∀ u, 0 ≤ Y u ∧ Y u ≤ 1) (mx : ℚ) (n : ℕ) (x : ℚ) :
    0 ≤ cdfB ratOps Y (.upper mx) n x := by
  rcases lt_or_ge x mx with hx | hx
  · rw [cdfB_upper_of_lt _ _ hx]; linarith [(hY x).1, (hY (2 * mx - x)).2]
  · rw [cdfB_upper_of_ge _ _ _ hx]; exact zero_le_one

example : 0 ≤ cdfB ratOps (epanCDF 2) (.upper 1) 0 (1/2) :=
  cdfB_upper_nonneg (epanCDF_range (by norm_num)) _ _ _

/-- With an upper boundary the reflected density is `0` from the boundary on (any value type). -/
theorem pdfB_upper_of_ge {α} (o : Ops α) (y : ℚ → α) {mx x : ℚ} (n : ℕ) (hx : mx ≤ x) :
    pdfB o y (.upper mx) n x = o.zero := by
  simp only [pdfB, ge_iff_le, hx, if_true]

example : pdfB ratOps (fun x => x) (.upper 3) 2 3 = 0 := pdfB_upper_of_ge _ _ _ le_rfl

/-- With an upper boundary and `y ≥ 0`, the reflected density is nonnegative. -/
theorem pdfB_upper_nonneg {y : ℚ → ℚ} (hy : ∀ u, 0 ≤ y u) (mx : ℚ) (n : ℕ) (x : ℚ) :
    0 ≤ pdfB ratOps y (.upper mx) n x := by
  simp only [pdfB, ratOps]
  split_ifs
  · exact le_rfl
  · exact add_nonneg (hy _) (hy _)

example : 0 ≤ pdfB ratOps (epanPDF 2) (.upper 1) 0 (1/2) :=
  pdfB_upper_nonneg (epanPDF_nonneg (by norm_num)) _ _ _

/-! ## K4 — two boundaries -/

lemma sumN_rat (n : ℕ) (f : ℕ → ℚ) : sumN ratOps n f = ∑ i ∈ Finset.range n, f i := by
  induction n with
  | zero => simp [sumN, ratOps]
  | succ n ih =>
    rw [Finset.sum_range_succ, ← ih]
    simp [sumN, List.range_succ, ratOps]

/-- the `k`-th term of the first (right-going) image sum of `cdfB … (.both mn mx)` -/
def bothT1 (Y : ℚ → ℚ) (mn mx x : ℚ) (k : ℕ) : ℚ :=
  Y (x + k * (2 * (mx - mn))) - Y (x + k * (2 * (mx - mn)) - 2 * (x - mn))

/-- the `k`-th term of the second (left-going) image sum of `cdfB … (.both mn mx)` -/
def bothT2 (Y : ℚ → ℚ) (mn mx x : ℚ) (k : ℕ) : ℚ :=
  Y (x - (k + 1 : ℕ) * (2 * (mx - mn))) - Y (x - (k + 1 : ℕ) * (2 * (mx - mn)) - 2 * (x - mn))

/-- the two-sided image-sum formula used by `cdfB … (.both mn mx)` inside `[mn, mx)` -/
def bothFormula (Y : ℚ → ℚ) (mn mx : ℚ) (n : ℕ) (x : ℚ) : ℚ :=
  ∑ k ∈ Finset.range n, bothT1 Y mn mx x k + ∑ k ∈ Finset.range n, bothT2 Y mn mx x k

/-- Inside `[mn, mx)` the two-boundary CDF is the image-sum formula `bothFormula`. -/
theorem cdfB_both_eq (Y : ℚ → ℚ) {mn mx x : ℚ} (n : ℕ) (h1 : mn ≤ x) (h2 : x < mx) :
    cdfB ratOps Y (.both mn mx) n x = bothFormula Y mn mx n x := by
  simp only [cdfB, not_lt.mpr h1, ge_iff_le, not_le.mpr h2, if_false, sumN_rat]
  rfl

example : cdfB ratOps (epanCDF 2) (.both 0 1) 2 (1/2) = bothFormula (epanCDF 2) 0 1 2 (1/2) :=
  cdfB_both_eq _ _ (by norm_num) (by norm_num)

/-- With two boundaries the CDF is `0` below `mn` (any value type). -/
theorem cdfB_both_of_lt {α} (o : Ops α) (Y : ℚ → α) {mn mx x : ℚ} (n : ℕ) (hx : x < mn) :
    cdfB o Y (.both mn mx) n x = o.zero := by
  simp only [cdfB, hx, if_true]

example : cdfB ratOps (fun x => x) (.both 0 1) 2 (-1) = 0 := cdfB_both_of_lt _ _ _ (by norm_num)

lemma cdfB_both_of_ge' {α} (o : Ops α) (Y : ℚ → α) {mn mx x : ℚ} (n : ℕ) (h1 : mn ≤ x)
    (hx : mx ≤ x) : cdfB o Y (.both mn mx) n x = o.one := by
  simp only [cdfB, not_lt.mpr h1, ge_iff_le, hx, if_true, if_false]

/-- With two boundaries `mn ≤ mx` the CDF is `1` from `mx` on (any value type). -/
theorem cdfB_both_of_ge {α} (o : Ops α) (Y : ℚ → α) {mn mx x : ℚ} (n : ℕ) (hmm : mn ≤ mx)
    (hx : mx ≤ x) : cdfB o Y (.both mn mx) n x = o.one :=
  cdfB_both_of_ge' o Y n (hmm.trans hx) hx

example : cdfB ratOps (fun x => x) (.both 0 1) 2 1 = 1 :=
  cdfB_both_of_ge _ _ _ (by norm_num) le_rfl

/-- With two boundaries `mn < mx` the CDF is exactly `0` at `mn`, for every `Y` and every number
of images: every term `Y(a) − Y(a − 0)` vanishes. -/
theorem cdfB_both_at_min (Y : ℚ → ℚ) {mn mx : ℚ} (n : ℕ) (hmm : mn < mx) :
    cdfB ratOps Y (.both mn mx) n mn = 0 := by
  rw [cdfB_both_eq Y n le_rfl hmm]
  unfold bothFormula bothT1 bothT2
  simp

example : cdfB ratOps (fun x => x * x) (.both 0 1) 3 0 = 0 := cdfB_both_at_min _ _ (by norm_num)

/-- The image terms with the reflected point `2 mn − x` written out: the `k`-th right-going term is
the `Y`-mass of `(2 mn − x + k d, x + k d]`, the `k`-th left-going one that of the same interval
shifted by `−(2k + 1) d`. -/
lemma bothT1_eq (Y : ℚ → ℚ) (mn mx x : ℚ) (k : ℕ) :
    bothT1 Y mn mx x k
      = Y (x + k * (2 * (mx - mn))) - Y (2 * mn - x + k * (2 * (mx - mn))) := by
  unfold bothT1; congr 2; ring

lemma bothT2_eq (Y : ℚ → ℚ) (mn mx x : ℚ) (k : ℕ) :
    bothT2 Y mn mx x k
      = Y (x - (k + 1 : ℕ) * (2 * (mx - mn))) - Y (2 * mn - x - (k + 1 : ℕ) * (2 * (mx - mn))) := by
  unfold bothT2; congr 2; ring

/-- For monotone `Y` and `mn ≤ x`, every term of both image sums is nonnegative. -/
theorem cdfB_both_terms_nonneg {Y : ℚ → ℚ} (hY : Monotone Y) {mn x : ℚ} (mx : ℚ) (h1 : mn ≤ x)
    (k : ℕ) : 0 ≤ bothT1 Y mn mx x k ∧ 0 ≤ bothT2 Y mn mx x k := by
  rw [bothT1_eq, bothT2_eq]
  exact ⟨sub_nonneg.2 (hY (by linarith)), sub_nonneg.2 (hY (by linarith))⟩

example : 0 ≤ bothT1 (epanCDF 2) 0 1 (1/2) 1 :=
  (cdfB_both_terms_nonneg (epanCDF_mono (by norm_num)) _ (by norm_num) _).1

lemma bothFormula_nonneg {Y : ℚ → ℚ} (hY : Monotone Y) {mn x : ℚ} (mx : ℚ) (n : ℕ) (h1 : mn ≤ x) :
    0 ≤ bothFormula Y mn mx n x :=
  add_nonneg (Finset.sum_nonneg fun k _ => (cdfB_both_terms_nonneg hY mx h1 k).1)
    (Finset.sum_nonneg fun k _ => (cdfB_both_terms_nonneg hY mx h1 k).2)

/-- For monotone `Y`, every term of both image sums is monotone in `x`. -/
theorem cdfB_both_terms_mono {Y : ℚ → ℚ} (hY : Monotone Y) (mn mx : ℚ) (k : ℕ) :
    Monotone (fun x => bothT1 Y mn mx x k) ∧ Monotone (fun x => bothT2 Y mn mx x k) := by
  simp only [bothT1_eq, bothT2_eq]
  exact ⟨fun a b hab => sub_le_sub (hY (by linarith)) (hY (by linarith)),
    fun a b hab => sub_le_sub (hY (by linarith)) (hY (by linarith))⟩

example : bothT2 (epanCDF 2) 0 1 (1/4) 1 ≤ bothT2 (epanCDF 2) 0 1 (1/2) 1 :=
  (cdfB_both_terms_mono (epanCDF_mono (by norm_num)) 0 1 1).2 (by norm_num)

lemma bothFormula_mono {Y : ℚ → ℚ} (hY : Monotone Y) (mn mx : ℚ) (n : ℕ) :
    Monotone (bothFormula Y mn mx n) := by
  intro a b hab
  unfold bothFormula
  exact add_le_add (Finset.sum_le_sum fun k _ => (cdfB_both_terms_mono hY mn mx k).1 hab)
    (Finset.sum_le_sum fun k _ => (cdfB_both_terms_mono hY mn mx k).2 hab)

/-- For monotone `Y` the two-boundary CDF is nonnegative everywhere. -/
theorem cdfB_both_nonneg {Y : ℚ → ℚ} (hY : Monotone Y) (mn mx : ℚ) (n : ℕ) (x : ℚ) :
    0 ≤ cdfB ratOps Y (.both mn mx) n x := by
  rcases lt_or_ge x mn with h1 | h1
  · rw [cdfB_both_of_lt _ _ _ h1]; exact le_rfl
  rcases lt_or_ge x mx with h2 | h2
  · rw [cdfB_both_eq Y n h1 h2]; exact bothFormula_nonneg hY mx n h1
  · rw [cdfB_both_of_ge' _ _ _ h1 h2]; exact zero_le_one

example : 0 ≤ cdfB ratOps (epanCDF 2) (.both 0 1) 2 (1/2) :=
  cdfB_both_nonneg (epanCDF_mono (by norm_num)) _ _ _ _

/-- For monotone `Y` the two-boundary CDF is monotone in `x` on `[mn, mx)`. -/
theorem cdfB_both_monoOn {Y : ℚ → ℚ} (hY : Monotone Y) (mn mx : ℚ) (n : ℕ) :
    MonotoneOn (cdfB ratOps Y (.both mn mx) n) (Set.Ico mn mx) := by
  intro a ha b hb hab
  rw [cdfB_both_eq Y n ha.1 ha.2, cdfB_both_eq Y n hb.1 hb.2]
  exact bothFormula_mono hY mn mx n hab

example : cdfB ratOps (epanCDF 2) (.both 0 1) 2 (1/4) ≤ cdfB ratOps (epanCDF 2) (.both 0 1) 2 (1/2) :=
  cdfB_both_monoOn (epanCDF_mono (by norm_num)) 0 1 2 (by norm_num) (by norm_num) (by norm_num)

/-- Disjointness of the image intervals: for monotone `Y` and `mn ≤ x < mx` the two-boundary
CDF with `n` image pairs is at most the `Y`-mass of the single interval
`(2 mn − x − n d, 2 mn − x + n d]`, `d = 2 (mx − mn)`: each term is at most the mass of the gap
between consecutive reflected points `2 mn − x + k d`, and those telescope. -/
theorem cdfB_both_le_mass {Y : ℚ → ℚ} (hY : Monotone Y) {mn mx x : ℚ} (n : ℕ)
    (h1 : mn ≤ x) (h2 : x < mx) :
    cdfB ratOps Y (.both mn mx) n x
      ≤ Y (2 * mn - x + n * (2 * (mx - mn))) - Y (2 * mn - x - n * (2 * (mx - mn))) := by
  have t1 := Finset.sum_range_sub (fun k : ℕ => Y (2 * mn - x + k * (2 * (mx - mn)))) n
  have t2 := Finset.sum_range_sub' (fun k : ℕ => Y (2 * mn - x - k * (2 * (mx - mn)))) n
  simp only [Nat.cast_zero, zero_mul, add_zero, sub_zero] at t1 t2
  rw [cdfB_both_eq Y n h1 h2, bothFormula, ← sub_add_sub_cancel _ (Y (2 * mn - x)), ← t1, ← t2]
  refine add_le_add (Finset.sum_le_sum fun k _ => ?_) (Finset.sum_le_sum fun k _ => ?_)
  · rw [bothT1_eq]; exact sub_le_sub_right (hY (by push_cast; linarith)) _
  · rw [bothT2_eq]; exact sub_le_sub_right (hY (by push_cast; linarith)) _

example : cdfB ratOps (epanCDF 2) (.both 0 1) 2 (1/2)
    ≤ epanCDF 2 (2 * 0 - 1/2 + (2 : ℕ) * (2 * (1 - 0))) - epanCDF 2 (2 * 0 - 1/2 - (2 : ℕ) * (2 * (1 - 0))) :=
  cdfB_both_le_mass (epanCDF_mono (by norm_num)) 2 (by norm_num) (by norm_num)

/-- For monotone `Y` with values in `[0,1]` the two-boundary CDF is at most `1` everywhere. -/
theorem cdfB_both_le_one {Y : ℚ → ℚ} (hY : Monotone Y) (hr : ∀ u, 0 ≤ Y u ∧ Y u ≤ 1)
    (mn mx : ℚ) (n : ℕ) (x : ℚ) : cdfB ratOps Y (.both mn mx) n x ≤ 1 := by
  rcases lt_or_ge x mn with h1 | h1
  · rw [cdfB_both_of_lt _ _ _ h1]; exact zero_le_one
  rcases lt_or_ge x mx with h2 | h2
  · refine (cdfB_both_le_mass hY n h1 h2).trans ?_
    linarith [(hr (2 * mn - x + n * (2 * (mx - mn)))).2, (hr (2 * mn - x - n * (2 * (mx - mn)))).1]
  · rw [cdfB_both_of_ge' _ _ _ h1 h2]; exact le_rfl

example : cdfB ratOps (epanCDF 2) (.both 0 1) 2 (1/2) ≤ 1 :=
  cdfB_both_le_one (epanCDF_mono (by norm_num)) (epanCDF_range (by norm_num)) _ _ _ _

/-- For monotone `Y` with values in `[0,1]` the two-boundary CDF is monotone on all of ℚ
(`0` below `mn`, the image sums on `[mn, mx)`, `1` from `mx` on). -/
theorem cdfB_both_mono {Y : ℚ → ℚ} (hY : Monotone Y) (hr : ∀ u, 0 ≤ Y u ∧ Y u ≤ 1)
    (mn mx : ℚ) (n : ℕ) : Monotone (cdfB ratOps Y (.both mn mx) n) := by
  intro a b hab
  rcases lt_or_ge a mn with ha | ha
  · rw [cdfB_both_of_lt _ _ _ ha]; exact cdfB_both_nonneg hY mn mx n b
  rcases lt_or_ge b mx with hb | hb
  · exact cdfB_both_monoOn hY mn mx n ⟨ha, lt_of_le_of_lt hab hb⟩ ⟨ha.trans hab, hb⟩ hab
  · rcases lt_or_ge a mx with ha2 | ha2
    · rw [cdfB_both_of_ge' _ _ _ (ha.trans hab) hb]; exact cdfB_both_le_one hY hr mn mx n a
    · rw [cdfB_both_of_ge' _ _ _ (ha.trans hab) hb, cdfB_both_of_ge' _ _ _ ha ha2]

example : cdfB ratOps (epanCDF 2) (.both 0 1) 2 (1/2) ≤ cdfB ratOps (epanCDF 2) (.both 0 1) 2 3 :=
  cdfB_both_mono (epanCDF_mono (by norm_num)) (epanCDF_range (by norm_num)) _ _ _ (by norm_num)

/-- Telescoping at the upper boundary: evaluated at `x = mx` the image-sum formula collapses to
the `Y`-mass of one interval of length `2 n d` (`d = 2 (mx − mn)`):
`Y (mx + (n − 1) d) − Y (mx − (n + 1) d)`. So as `x → mx` the finite sums collect all the mass
within `n d` of the reflected point `mx − d = 2 mn − mx`. -/
theorem bothFormula_at_max (Y : ℚ → ℚ) (mn mx : ℚ) (n : ℕ) :
    bothFormula Y mn mx n mx
      = Y (mx + ((n : ℚ) - 1) * (2 * (mx - mn))) - Y (mx - ((n : ℚ) + 1) * (2 * (mx - mn))) := by
  have t1 := Finset.sum_range_sub (fun k : ℕ => Y (mx + ((k : ℚ) - 1) * (2 * (mx - mn)))) n
  have t2 := Finset.sum_range_sub' (fun k : ℕ => Y (mx - ((k : ℚ) + 1) * (2 * (mx - mn)))) n
  simp only [Nat.cast_zero, zero_sub, zero_add, neg_one_mul, one_mul, ← sub_eq_add_neg] at t1 t2
  rw [bothFormula, ← sub_add_sub_cancel _ (Y (mx - 2 * (mx - mn))), ← t1, ← t2]
  congr 1 <;> refine Finset.sum_congr rfl fun k _ => ?_
  · rw [bothT1_eq]; push_cast; congr 2 <;> ring
  · rw [bothT2_eq]; push_cast; congr 2 <;> ring

example : bothFormula (fun x => x * x * x) 0 1 2 1 = (1 + 2) ^ 3 - (1 - 6 : ℚ) ^ 3 := by
  rw [bothFormula_at_max]; norm_num

/-- With two boundaries the reflected density is `0` outside `[mn, mx)` (any value type). -/
theorem pdfB_both_of_out {α} (o : Ops α) (y : ℚ → α) {mn mx x : ℚ} (n : ℕ)
    (hx : x < mn ∨ mx ≤ x) : pdfB o y (.both mn mx) n x = o.zero := by
  simp only [pdfB, ge_iff_le, hx, if_true]

example : pdfB ratOps (fun x => x) (.both 0 1) 2 1 = 0 := pdfB_both_of_out _ _ _ (Or.inr le_rfl)

/-- With two boundaries and `y ≥ 0`, the reflected density is nonnegative. -/
theorem pdfB_both_nonneg {y : ℚ → ℚ} (hy : ∀ u, 0 ≤ y u) (mn mx : ℚ) (n : ℕ) (x : ℚ) :
    0 ≤ pdfB ratOps y (.both mn mx) n x := by
  simp only [pdfB]
  split_ifs
  · exact le_rfl
  · rw [sumN_rat, sumN_rat]
    simp only [ratOps]
    exact add_nonneg (Finset.sum_nonneg fun k _ => add_nonneg (hy _) (hy _))
      (Finset.sum_nonneg fun k _ => add_nonneg (hy _) (hy _))

example : 0 ≤ pdfB ratOps (epanPDF 2) (.both 0 1) 2 (1/2) :=
  pdfB_both_nonneg (epanPDF_nonneg (by norm_num)) _ _ _ _

/-! ## K5 — the delta-kernel estimate is the weighted empirical CDF -/

lemma delta_sum (l : List (ℚ × ℚ)) (x : ℚ) :
    (l.map (fun p => p.2 * deltaCDF (x - p.1))).sum
      = ((l.filter (fun p => decide (p.1 ≤ x))).map Prod.snd).sum := by
  induction l with
  | nil => simp
  | cons p l ih =>
    rw [List.map_cons, List.sum_cons, ih, List.filter_cons]
    unfold deltaCDF
    by_cases hp : p.1 ≤ x
    · rw [if_pos (by linarith : x - p.1 ≥ 0)]; simp [hp]
    · rw [if_neg (by linarith : ¬ x - p.1 ≥ 0)]; simp [hp]

/-- The unbounded delta-kernel CDF estimate is the weighted empirical CDF:
`(Σ_{xᵢ ≤ x} wᵢ) / Σ w`. -/
theorem deltaKDEcdf_none (xs ws : List ℚ) (n : ℕ) (x : ℚ) :
    deltaKDEcdf xs ws .none n x
      = sum (((xs.zip ws).filter (fun p => decide (p.1 ≤ x))).map Prod.snd) / sum ws := by
  show wavg deltaCDF xs ws x = _
  rw [wavg_eq, delta_sum, sum_eq, sum_eq]

example : deltaKDEcdf [0, 1, 3] [1, 2, 1] .none 0 2 = 3 / 4 := by
  rw [deltaKDEcdf_none]; decide +kernel

/-! ## K3–K4 combined — the Epanechnikov estimate with any boundary specification -/

/-- The Epanechnikov density estimate is nonnegative for every boundary specification. -/
theorem epanKDEpdf_nonneg {xs ws : List ℚ} {h : ℚ} (hh : 0 < h) (hw : ∀ w ∈ ws, 0 ≤ w)
    (b : Bnd) (n : ℕ) (x : ℚ) : 0 ≤ epanKDEpdf xs ws h b n x := by
  have hy : ∀ u, 0 ≤ wavg (epanPDF h) xs ws u := wavg_nonneg hw (epanPDF_nonneg hh)
  cases b with
  | none => exact hy x
  | lower mn => exact pdfB_lower_nonneg hy mn n x
  | upper mx => exact pdfB_upper_nonneg hy mx n x
  | both mn mx => exact pdfB_both_nonneg hy mn mx n x

example : 0 ≤ epanKDEpdf [0, 1, 3] [1, 2, 1] 2 (.both 0 3) 2 (3/2) :=
  epanKDEpdf_nonneg (by norm_num) (by decide +kernel) _ _ _

/-- The Epanechnikov CDF estimate is monotone for every boundary specification. -/
theorem epanKDEcdf_mono {xs ws : List ℚ} {h : ℚ} (hh : 0 < h) (hw : ∀ w ∈ ws, 0 ≤ w)
    (b : Bnd) (n : ℕ) : Monotone (epanKDEcdf xs ws h b n) := by
  have hY : Monotone (wavg (epanCDF h) xs ws) := wavg_mono hw (epanCDF_mono hh)
  have hr : ∀ u, 0 ≤ wavg (epanCDF h) xs ws u ∧ wavg (epanCDF h) xs ws u ≤ 1 :=
    wavg_range hw (epanCDF_range hh)
  cases b with
  | none => exact hY
  | lower mn => exact cdfB_lower_mono hY mn n
  | upper mx => exact cdfB_upper_mono hY mx n
  | both mn mx => exact cdfB_both_mono hY hr mn mx n

example : epanKDEcdf [0, 1, 3] [1, 2, 1] 2 (.both 0 3) 2 1 ≤ epanKDEcdf [0, 1, 3] [1, 2, 1] 2 (.both 0 3) 2 2 :=
  epanKDEcdf_mono (by norm_num) (by decide +kernel) _ _ (by norm_num)

/-- The Epanechnikov CDF estimate has values in `[0,1]` for every boundary specification. -/
theorem epanKDEcdf_range {xs ws : List ℚ} {h : ℚ} (hh : 0 < h) (hw : ∀ w ∈ ws, 0 ≤ w)
    (b : Bnd) (n : ℕ) (x : ℚ) : 0 ≤ epanKDEcdf xs ws h b n x ∧ epanKDEcdf xs ws h b n x ≤ 1 := by
  have hY : Monotone (wavg (epanCDF h) xs ws) := wavg_mono hw (epanCDF_mono hh)
  have hr : ∀ u, 0 ≤ wavg (epanCDF h) xs ws u ∧ wavg (epanCDF h) xs ws u ≤ 1 :=
    wavg_range hw (epanCDF_range hh)
  cases b with
  | none => exact hr x
  | lower mn => exact ⟨cdfB_lower_nonneg hY mn n x, cdfB_lower_le_one hr mn n x⟩
  | upper mx => exact ⟨cdfB_upper_nonneg hr mx n x, cdfB_upper_le_one hY mx n x⟩
  | both mn mx => exact ⟨cdfB_both_nonneg hY mn mx n x, cdfB_both_le_one hY hr mn mx n x⟩

example : 0 ≤ epanKDEcdf [0, 1, 3] [1, 2, 1] 2 (.upper 3) 2 1 ∧
    epanKDEcdf [0, 1, 3] [1, 2, 1] 2 (.upper 3) 2 1 ≤ 1 :=
  epanKDEcdf_range (by norm_num) (by decide +kernel) _ _ _

lemma exists_mem_of_sum_ne_zero {xs ws : List ℚ} (hlen : xs.length = ws.length)
    (hs : sum ws ≠ 0) : ∃ x0, x0 ∈ xs := by
  refine List.exists_mem_of_ne_nil _ ?_
  rintro rfl
  rw [List.eq_nil_of_length_eq_zero hlen.symm] at hs
  exact hs rfl

/-- Lower boundary with all data `≥ mn`: the reflected Epanechnikov CDF estimate reaches `1`
for `x ≥ max xs + h` (the reflected image `2 mn − x` is then left of every kernel). -/
theorem epanKDEcdf_lower_eq_one {xs ws : List ℚ} {h mn : ℚ} (hh : 0 < h)
    (hlen : xs.length = ws.length) (hs : sum ws ≠ 0) (hd : ∀ xi ∈ xs, mn ≤ xi) (n : ℕ) {x : ℚ}
    (hx : ∀ xi ∈ xs, xi + h ≤ x) : epanKDEcdf xs ws h (.lower mn) n x = 1 := by
  obtain ⟨x0, h0⟩ := exists_mem_of_sum_ne_zero hlen hs
  unfold epanKDEcdf
  rw [cdfB_lower_of_ge _ _ (by linarith [hd x0 h0, hx x0 h0]),
    wavg_const_at hlen hs fun xi hxi => epanCDF_eq_one hh (by linarith [hx xi hxi]),
    wavg_zero_at ws fun xi hxi => epanCDF_eq_zero hh (by linarith [hx xi hxi, hd xi hxi]),
    sub_zero]

example : epanKDEcdf [0, 1, 3] [1, 2, 1] 2 (.lower 0) 0 5 = 1 :=
  epanKDEcdf_lower_eq_one (xs := [0, 1, 3]) (ws := [1, 2, 1]) (h := 2) (by norm_num) rfl
    (by decide +kernel) (by decide +kernel) _ (by decide +kernel)

/-- Upper boundary with all data `≤ mx`: the reflected Epanechnikov CDF estimate is `0`
for `x ≤ min xs − h`. -/
theorem epanKDEcdf_upper_eq_zero {xs ws : List ℚ} {h mx : ℚ} (hh : 0 < h)
    (hlen : xs.length = ws.length) (hs : sum ws ≠ 0) (hd : ∀ xi ∈ xs, xi ≤ mx) (n : ℕ) {x : ℚ}
    (hx : ∀ xi ∈ xs, x ≤ xi - h) : epanKDEcdf xs ws h (.upper mx) n x = 0 := by
  obtain ⟨x0, h0⟩ := exists_mem_of_sum_ne_zero hlen hs
  unfold epanKDEcdf
  rw [cdfB_upper_of_lt _ _ (by linarith [hd x0 h0, hx x0 h0]),
    wavg_zero_at ws fun xi hxi => epanCDF_eq_zero hh (by linarith [hx xi hxi]),
    wavg_const_at hlen hs fun xi hxi => epanCDF_eq_one hh (by linarith [hx xi hxi, hd xi hxi]),
    sub_self, add_zero]

example : epanKDEcdf [0, 1, 3] [1, 2, 1] 2 (.upper 3) 0 (-2) = 0 :=
  epanKDEcdf_upper_eq_zero (xs := [0, 1, 3]) (ws := [1, 2, 1]) (h := 2) (by norm_num) rfl
    (by decide +kernel) (by decide +kernel) _ (by decide +kernel)

end MV.KDE
