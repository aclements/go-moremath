import MV.Model.KDE
import MV.Proofs.Interval
/-!
# C12 — the reference of the relative clauses for the unbounded Gaussian estimate is sound

The judge holds the density and the lower-tail CDF of an unbounded Gaussian kernel estimate to relative
accuracy, comparing them with `wavgExact (gaussPDFX h)` resp. `wavgExact (fun u => I.Phi (u/h))`.
These theorems say that those intervals enclose the mathematical values

  f̂(x) = Σ wᵢ φ((x−xᵢ)/h)/h / Σ wᵢ ,   F̂(x) = Σ wᵢ Φ((x−xᵢ)/h) / Σ wᵢ

for every sample, every non-negative weight vector of positive total and every bandwidth h > 0
(φ, Φ as in `MV/Proofs/Interval.lean`: the standard normal density and the integral of it over (−∞, z]).
-/
namespace MV.KDE
open MV MV.I

/-- the real-valued weighted sum the fold of `wavgExact` encloses -/
noncomputable def wsumR (g : ℝ → ℝ) (x : ℚ) : List (ℚ × ℚ) → ℝ
  | [] => 0
  | p :: ps => (p.2 : ℝ) * g (((x - p.1 : ℚ)) : ℝ) + wsumR g x ps

lemma wsumR_eq_sum (g : ℝ → ℝ) (x : ℚ) (ps : List (ℚ × ℚ)) :
    wsumR g x ps = (ps.map fun p => (p.2 : ℝ) * g ((x - p.1 : ℚ) : ℝ)).sum := by
  induction ps with
  | nil => rfl
  | cons p ps ih => rw [wsumR, ih, List.map_cons, List.sum_cons]

lemma fold_bounds (f : ℚ → I) (g : ℝ → ℝ) (hf : ∀ u : ℚ, Mem (g (u : ℝ)) (f u)) (x : ℚ)
    (ps : List (ℚ × ℚ)) (hw : ∀ p ∈ ps, 0 ≤ p.2) (a b : ℚ) (r : ℝ) (ha : (a : ℝ) ≤ r) (hb : r ≤ (b : ℝ)) :
    let s := ps.foldl (fun (s : ℚ × ℚ) (p : ℚ × ℚ) => let e := f (x - p.1); (s.1 + p.2 * e.lo, s.2 + p.2 * e.hi)) (a, b)
    ((s.1 : ℚ) : ℝ) ≤ r + wsumR g x ps ∧ r + wsumR g x ps ≤ ((s.2 : ℚ) : ℝ) := by
  induction ps generalizing a b r with
  | nil => simp [wsumR, ha, hb]
  | cons p ps ih =>
    have hp : (0 : ℝ) ≤ (p.2 : ℝ) := by exact_mod_cast hw p (List.mem_cons_self ..)
    have hm := hf (x - p.1)
    have h1 : ((a + p.2 * (f (x - p.1)).lo : ℚ) : ℝ) ≤ r + (p.2 : ℝ) * g ((x - p.1 : ℚ) : ℝ) := by
      rw [Rat.cast_add, Rat.cast_mul]
      have := mul_le_mul_of_nonneg_left hm.1 hp
      linarith
    have h2 : r + (p.2 : ℝ) * g ((x - p.1 : ℚ) : ℝ) ≤ ((b + p.2 * (f (x - p.1)).hi : ℚ) : ℝ) := by
      rw [Rat.cast_add, Rat.cast_mul]
      have := mul_le_mul_of_nonneg_left hm.2 hp
      linarith
    have := ih (fun q hq => hw q (List.mem_cons_of_mem _ hq)) _ _ _ h1 h2
    simp only [List.foldl_cons, wsumR]
    constructor
    · have := this.1; linarith
    · have := this.2; linarith

lemma sum_eq_list_sum (l : List ℚ) : sum l = l.sum := List.sum_eq_foldl.symm

/-- **Soundness of the exact-end-point average.** If `f u` encloses `g u` for every rational `u`, the
weights are non-negative and their total is positive, then `wavgExact f xs ws x` encloses
`(Σ wᵢ g(x − xᵢ)) / Σ wᵢ`. -/
theorem wavgExact_sound (f : ℚ → I) (g : ℝ → ℝ) (hf : ∀ u : ℚ, Mem (g (u : ℝ)) (f u))
    (xs ws : List ℚ) (hw : ∀ w ∈ ws, 0 ≤ w) (hW : 0 < sum ws) (x : ℚ) :
    Mem (wsumR g x (xs.zip ws) / ((sum ws : ℚ) : ℝ)) (wavgExact f xs ws x) := by
  have hps : ∀ p ∈ xs.zip ws, 0 ≤ p.2 := by
    intro p hp
    exact hw _ (List.of_mem_zip hp).2
  have hb := fold_bounds f g hf x (xs.zip ws) hps 0 0 0 (by simp) (by simp)
  simp only [zero_add] at hb
  have hWr : (0 : ℝ) < ((sum ws : ℚ) : ℝ) := by exact_mod_cast hW
  unfold wavgExact Mem
  simp only [Rat.cast_div]
  exact ⟨(div_le_div_iff_of_pos_right hWr).2 hb.1, (div_le_div_iff_of_pos_right hWr).2 hb.2⟩

/-- the Gaussian kernel density enclosure: φ(u/h)/h ∈ `gaussPDFX h u` for h > 0 -/
theorem gaussPDFX_sound (h : ℚ) (hh : 0 < h) (u : ℚ) :
    Mem (phiR (((u / h : ℚ)) : ℝ) / (h : ℝ)) (gaussPDFX h u) := by
  have hm := phi_soundR (u / h)
  simp only [Mem, Rat.cast_div] at hm
  have hhr : (0 : ℝ) < (h : ℝ) := by exact_mod_cast hh
  unfold gaussPDFX Mem
  simp only [Rat.cast_div]
  exact ⟨(div_le_div_iff_of_pos_right hhr).2 hm.1, (div_le_div_iff_of_pos_right hhr).2 hm.2⟩

/-- **Density reference.** `wavgExact (gaussPDFX h)` encloses the Gaussian kernel density estimate. -/
theorem gaussKDE_pdf_enclosed (h : ℚ) (hh : 0 < h) (xs ws : List ℚ) (hw : ∀ w ∈ ws, 0 ≤ w) (hW : 0 < sum ws) (x : ℚ) :
    Mem (wsumR (fun t => phiR (t / (h : ℝ)) / (h : ℝ)) x (xs.zip ws) / ((sum ws : ℚ) : ℝ))
      (wavgExact (gaussPDFX h) xs ws x) := by
  apply wavgExact_sound (gaussPDFX h) (fun t => phiR (t / (h : ℝ)) / (h : ℝ)) _ xs ws hw hW x
  intro u
  have := gaussPDFX_sound h hh u
  simpa [Rat.cast_div] using this

/-- **CDF reference.** `wavgExact (fun u => I.Phi (u/h))` encloses the Gaussian kernel CDF estimate. -/
theorem gaussKDE_cdf_enclosed (h : ℚ) (xs ws : List ℚ) (hw : ∀ w ∈ ws, 0 ≤ w) (hW : 0 < sum ws) (x : ℚ) :
    Mem (wsumR (fun t => Φ (t / (h : ℝ))) x (xs.zip ws) / ((sum ws : ℚ) : ℝ))
      (wavgExact (fun u => I.Phi (u / h)) xs ws x) := by
  apply wavgExact_sound (fun u => I.Phi (u / h)) (fun t => Φ (t / (h : ℝ))) _ xs ws hw hW x
  intro u
  have := Phi_sound (u / h)
  simpa [Rat.cast_div] using this

/-- the hypotheses are satisfiable and the enclosure is tight far below the 2⁻¹²⁸ grid -/
example : (wavgExact (gaussPDFX 1) [0, 1] [1, 1] (-38)).lo > 0 := by decide +kernel

end MV.KDE
