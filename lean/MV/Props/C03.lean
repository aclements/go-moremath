import MV.Props.C01
import MV.Props.C03Moments
/-!
# C03 — Mann-Whitney U: sample swap, error characterisation, approximate-branch symmetry
-/
namespace MV.MWU
open MV.UDist

/-! ## swapping the samples: `U ↦ n1·n2 − U` -/

lemma wt_add_wt (a b : Rat) : wt a b + wt b a = 1 := by
  rcases lt_trichotomy a b with h | rfl | h
  · rw [wt_of_lt h, wt_of_gt h, zero_add]
  · rw [wt_self, add_halves]
  · rw [wt_of_gt h, wt_of_lt h, add_zero]

lemma pairU_nil_left (x : List Rat) : pairU [] x = 0 := by simp [pairU_eq_sum]
lemma pairU_nil_right (x : List Rat) : pairU x [] = 0 := by simp [pairU_eq_sum]

lemma pairU_cons_left (a : Rat) (x1 x2 : List Rat) :
    pairU (a :: x1) x2 = (x2.map (wt a)).sum + pairU x1 x2 := by
  simp [pairU_eq_sum]

lemma pairU_cons_right (a : Rat) (x1 x2 : List Rat) :
    pairU x2 (a :: x1) = (x2.map fun b => wt b a).sum + pairU x2 x1 := by
  simp only [pairU_eq_sum, List.map_cons, List.sum_cons, List.sum_map_add]

/-- Swapping the two samples turns U into n1·n2 − U. -/
theorem pairU_swap (x1 x2 : List Rat) :
    pairU x2 x1 = ((x1.length * x2.length : Nat) : Rat) - pairU x1 x2 := by
  induction x1 with
  | nil => simp [pairU_nil_left, pairU_nil_right]
  | cons a x1 ih =>
    rw [pairU_cons_left, pairU_cons_right, ih]
    have : (x2.map fun b => wt b a).sum = (x2.length : Rat) - (x2.map (wt a)).sum := by
      rw [eq_sub_iff_add_eq, ← List.sum_map_add]
      simp [wt_add_wt]
    rw [this]
    simp only [List.length_cons]
    push_cast
    ring

example : pairU [2, 1, 7] [3, 1, 1, 5 / 2] = ((4 * 3 : Nat) : Rat) - pairU [3, 1, 1, 5 / 2] [2, 1, 7] :=
  pairU_swap [3, 1, 1, 5 / 2] [2, 1, 7]

/-- Swapping the two samples turns the U computed from mid-ranks into n1·n2 − U. -/
theorem uFromRanks_swap (x1 x2 : List Rat) :
    uFromRanks x2 x1 = ((x1.length * x2.length : Nat) : Rat) - uFromRanks x1 x2 := by
  rw [uFromRanks_eq_pairU, uFromRanks_eq_pairU, pairU_swap]

example : uFromRanks [2, 1, 7] [3, 1, 1] = ((3 * 3 : Nat) : Rat) - uFromRanks [3, 1, 1] [2, 1, 7] :=
  uFromRanks_swap _ _

/-! ## the two error results -/

/-- There is exactly one tie group iff all pooled observations are equal. -/
theorem tieGroups_length_one_iff (x1 x2 : List Rat) (h : x1 ++ x2 ≠ []) :
    (tieGroups x1 x2).length = 1 ↔ ∀ a ∈ x1 ++ x2, ∀ b ∈ x1 ++ x2, a = b := by
  unfold tieGroups
  rw [List.length_map]
  have hnd := distinctSorted_nodup (x1 ++ x2)
  have hmem := mem_distinctSorted (x1 ++ x2)
  constructor
  · intro hl a ha b hb
    obtain ⟨d, hd⟩ := List.length_eq_one_iff.1 hl
    rw [← hmem, hd] at ha hb
    simp only [List.mem_singleton] at ha hb
    rw [ha, hb]
  · intro hall
    obtain ⟨c, hc⟩ := List.exists_mem_of_ne_nil _ h
    generalize distinctSorted (x1 ++ x2) = D at hnd hmem
    match D, hnd, hmem with
    | [], _, hmem => exact absurd ((hmem c).2 hc) (by simp)
    | [d], _, _ => rfl
    | d :: e :: r, hnd, hmem =>
      have hd : d ∈ x1 ++ x2 := (hmem d).1 (by simp)
      have he : e ∈ x1 ++ x2 := (hmem e).1 (by simp)
      have := hall d hd e he
      subst this
      simp at hnd

example : (tieGroups [5, 5] [5]).length = 1 :=
  (tieGroups_length_one_iff [5, 5] [5] (by simp)).2 (by simp)

example : (tieGroups [5, 4] [5]).length ≠ 1 := fun h => by
  have := (tieGroups_length_one_iff [5, 4] [5] (by simp)).1 h 5 (by simp) 4 (by simp)
  norm_num at this

lemma mwuDecision_ne_errSize {n1 n2 : Nat} {t : List Nat} {u : Rat} {alt : Alt} {el tl : Int} :
    mwuDecision n1 n2 t u alt el tl ≠ .errSize := by
  unfold mwuDecision
  split_ifs <;> nofun

/-- The test reports the sample-size error exactly when one of the samples is empty. -/
theorem mwuTest_errSize_iff (x1 x2 : List Rat) (alt : Alt) (el tl : Int) :
    mwuTest x1 x2 alt el tl = .errSize ↔ x1 = [] ∨ x2 = [] := by
  rw [mwuTest_eq, ← List.length_eq_zero_iff, ← List.length_eq_zero_iff]
  split_ifs with h
  · exact iff_of_true rfl h
  · exact iff_of_false mwuDecision_ne_errSize h

example : mwuTest [] [1, 2] .less 50 25 = .errSize := (mwuTest_errSize_iff _ _ _ _ _).2 (Or.inl rfl)

/-! ## the variance of the normal approximation -/

/-- the model's tie correction (`x*x*x - x`, folded) is the `Σ (t³ − t)` of `C03Moments` -/
lemma tieCorr_eq_tau (t : List Nat) : tieCorr t = tau t := by
  unfold tieCorr tau
  rw [← List.sum_eq_foldl]
  simp only [pow_three']

lemma cube_add_lt {a s : Nat} (ha : 0 < a) (hs : 0 < s) : a ^ 3 + s ^ 3 < (a + s) ^ 3 := by
  rw [show (a + s) ^ 3 = a ^ 3 + s ^ 3 + 3 * a * s * (a + s) by ring]
  exact Nat.lt_add_of_pos_right (by positivity)

/-- (N+1)·N·(N−1) = N³ − N, so the variance factor vanishes iff `tc + N = N³`. -/
lemma varFactor_eq_zero_iff (N tc : Nat) (h2 : 2 ≤ N) :
    ((N : Rat) + 1) - (tc : Rat) / ((N : Rat) * ((N : Rat) - 1)) = 0 ↔ tc + N = N ^ 3 := by
  have h1 : (1 : Rat) < N := Nat.one_lt_cast.2 h2
  have hne : (N : Rat) * ((N : Rat) - 1) ≠ 0 :=
    mul_ne_zero (zero_lt_one.trans h1).ne' (sub_ne_zero.2 h1.ne')
  rw [sub_eq_zero, eq_div_iff hne, show ((N : Rat) + 1) * (N * (N - 1)) = N ^ 3 - N by ring,
    eq_comm, eq_sub_iff_add_eq]
  norm_cast

/-- With `t` a vector of positive tie-group sizes summing to N ≥ 2, the variance factor
(N+1) − Σ(t³−t)/(N(N−1)) of the normal approximation is zero iff there is exactly one group. -/
theorem var_zero_iff (t : List Nat) (hpos : ∀ x ∈ t, 0 < x) (N : Nat) (hN : t.sum = N)
    (h2 : 2 ≤ N) :
    ((N : Rat) + 1) - (tieCorr t : Rat) / ((N : Rat) * ((N : Rat) - 1)) = 0 ↔ t.length = 1 := by
  subst hN
  rw [varFactor_eq_zero_iff _ _ h2, tieCorr_eq_tau, tau_add_sum]
  constructor
  · intro h
    match t, hpos, h2, h with
    | [], _, h2, _ => simp at h2
    | [_], _, _, _ => rfl
    | a :: b :: r, hpos, _, h =>
      -- Σ x³ ≤ a³ + (Σ' x)³ < (a + Σ' x)³ when a and the rest are positive
      have hs : 0 < (b :: r).sum := Nat.add_pos_left (hpos b (by simp)) _
      exact absurd h ((Nat.add_le_add_left (sum_cubes_le (b :: r)) _).trans_lt
        (cube_add_lt (hpos a (by simp)) hs)).ne
  · intro h
    obtain ⟨x, rfl⟩ := List.length_eq_one_iff.1 h
    simp

example : ((5 : Nat) : Rat) + 1 - (tieCorr [5] : Rat) / (((5 : Nat) : Rat) * (((5 : Nat) : Rat) - 1)) = 0 :=
  (var_zero_iff [5] (by decide) 5 rfl (by decide)).2 rfl

example : ((5 : Nat) : Rat) + 1 - (tieCorr [2, 3] : Rat) / (((5 : Nat) : Rat) * (((5 : Nat) : Rat) - 1)) ≠ 0 :=
  fun h => absurd ((var_zero_iff [2, 3] (by decide) 5 rfl (by decide)).1 h) (by decide)

/-- **The variance the test uses is the variance of the exact distribution.**  For the tie vector
`t ≠ []` of samples of sizes `n1`, `n2`, the `approxVar` that `mwuDecision` puts under the normal
approximation equals `Σ_v (v/2 − n1 n2/2)² · pmfAt n1 n2 t v`, the variance of `U` under the exact
point masses of C02 (`U_variance_pmf`). -/
lemma approxVar_eq_variance (n1 n2 : Nat) (t : List Nat) (ht : t ≠ []) (hN : sumList t = n1 + n2) :
    approxVar n1 n2 t = ∑ v ∈ Finset.range (2 * n1 * n2 + 1),
      ((v : ℚ) / 2 - ((n1 : ℚ) * n2) / 2) ^ 2 * pmfAt n1 n2 t (v : ℤ) := by
  have he : effT n1 n2 t = t := by
    cases t with
    | nil => exact absurd rfl ht
    | cons a t => rfl
  rw [U_variance_pmf_any n1 n2 t (by rw [he]; exact hN), he, approxVar, tieCorr_eq_tau, sumList_eq]
  unfold tau
  push_cast
  ring

/-! ## the tie vector `(tieGroups x1 x2).map (·.1)` that `mwuTest` passes on: length, positivity, sum, swap -/

lemma tvec_length (x1 x2 : List Rat) :
    ((tieGroups x1 x2).map (·.1)).length = (tieGroups x1 x2).length := by simp

lemma tvec_pos (x1 x2 : List Rat) : ∀ x ∈ (tieGroups x1 x2).map (·.1), 0 < x := by
  intro x hx
  unfold tieGroups at hx
  simp only [List.map_map, List.mem_map, Function.comp_apply] at hx
  obtain ⟨v, hv, rfl⟩ := hx
  rw [mem_distinctSorted] at hv
  rw [← countEq_append]
  exact countEq_pos_of_mem hv

lemma tvec_sum (x1 x2 : List Rat) :
    ((tieGroups x1 x2).map (·.1)).sum = x1.length + x2.length := by
  have hnd := distinctSorted_nodup (x1 ++ x2)
  have h := length_eq_sum_countEq (R := Nat) _ hnd (x1 ++ x2) fun a ha => (mem_distinctSorted _ a).2 ha
  simp only [Nat.cast_id, countEq_append] at h
  rw [tieGroups, List.map_map, ← List.length_append, h]
  rfl

lemma tvec_swap (x1 x2 : List Rat) :
    (tieGroups x2 x1).map (·.1) = (tieGroups x1 x2).map (·.1) := by
  unfold tieGroups
  rw [distinctSorted_perm (List.perm_append_comm : (x2 ++ x1).Perm (x1 ++ x2))]
  simp [List.map_map, Function.comp_def, Nat.add_comm]

lemma approxVar_eq_zero_iff {n1 n2 : Nat} {t : List Nat} (h1 : 0 < n1) (h2 : 0 < n2)
    (hpos : ∀ x ∈ t, 0 < x) (hsum : t.sum = n1 + n2) : approxVar n1 n2 t = 0 ↔ t.length = 1 := by
  have hprod : ((n1 * n2 : Nat) : Rat) ≠ 0 := Nat.cast_ne_zero.2 (Nat.mul_ne_zero h1.ne' h2.ne')
  unfold approxVar
  rw [div_eq_zero_iff, mul_eq_zero, or_iff_left (by norm_num), or_iff_right hprod]
  exact var_zero_iff t hpos (n1 + n2) hsum (by omega)

lemma mwuDecision_errEqual_iff {n1 n2 : Nat} {t : List Nat}
    (hvar : approxVar n1 n2 t = 0 ↔ t.length = 1) (u : Rat) (alt : Alt) (el tl : Int) :
    mwuDecision n1 n2 t u alt el tl = .errEqual ↔ t.length = 1 := by
  unfold mwuDecision
  split_ifs with hE hl hv
  · exact iff_of_true rfl hl
  · exact iff_of_false nofun hl
  · exact iff_of_true rfl (hvar.1 (beq_iff_eq.1 hv))
  · exact iff_of_false nofun fun hl => hv (beq_iff_eq.2 (hvar.2 hl))

/-- For two non-empty samples the test reports the all-equal error exactly when all pooled
observations are equal — whichever branch (exact or normal approximation) the two limits select. -/
theorem mwuTest_errEqual_iff (x1 x2 : List Rat) (h1 : x1 ≠ []) (h2 : x2 ≠ []) (alt : Alt)
    (el tl : Int) :
    mwuTest x1 x2 alt el tl = .errEqual ↔ ∀ a ∈ x1 ++ x2, ∀ b ∈ x1 ++ x2, a = b := by
  rw [← tieGroups_length_one_iff x1 x2 (by simp [h1]), mwuTest_eq,
    if_neg (by simp [h1, h2]), ← tvec_length]
  exact mwuDecision_errEqual_iff (approxVar_eq_zero_iff (List.length_pos_of_ne_nil h1)
    (List.length_pos_of_ne_nil h2) (tvec_pos x1 x2) (tvec_sum x1 x2)) ..

example : mwuTest [5, 5] [5] .less 50 25 = .errEqual :=
  (mwuTest_errEqual_iff [5, 5] [5] (by simp) (by simp) _ _ _).2 (by simp)

example : mwuTest [5, 5] [5] .less 0 0 = .errEqual :=
  (mwuTest_errEqual_iff [5, 5] [5] (by simp) (by simp) _ _ _).2 (by simp)

example : mwuTest [5, 4] [5] .differs 0 0 ≠ .errEqual := fun h => by
  have := (mwuTest_errEqual_iff [5, 4] [5] (by simp) (by simp) _ _ _).1 h 5 (by simp) 4 (by simp)
  norm_num at this

/-! ## the approximate branch under a swap of the samples -/

/-- mirror image of an alternative: `less ↔ greater`, `differs` fixed -/
def Alt.mirror : Alt → Alt
  | .less => .greater
  | .greater => .less
  | .differs => .differs

lemma useExact_swap (n1 n2 : Nat) (ties : Bool) (el tl : Int) :
    useExact n2 n1 ties el tl = useExact n1 n2 ties el tl := by
  unfold useExact
  rw [Bool.and_right_comm, Bool.and_right_comm ties]

lemma approxVar_swap (n1 n2 : Nat) (t : List Nat) : approxVar n2 n1 t = approxVar n1 n2 t := by
  unfold approxVar
  rw [Nat.mul_comm, Nat.add_comm]

lemma corrected_mirror (alt : Alt) (d : Rat) : corrected alt.mirror (-d) = -corrected alt d := by
  cases alt with
  | less => exact (neg_add' d (1 / 2)).symm
  | greater => simp only [Alt.mirror, corrected]; ring
  | differs =>
    simp only [Alt.mirror, corrected]
    rcases lt_trichotomy d 0 with h | rfl | h
    · rw [if_pos (neg_pos.2 h), if_neg (lt_asymm h), if_pos h]; ring
    · simp
    · rw [if_neg (lt_asymm (neg_neg_of_pos h)), if_pos (neg_neg_of_pos h), if_pos h]; ring

lemma mwuDecision_swap {n1 n2 m1 m2 : Nat} {t : List Nat} {u u' numer var : Rat} {alt : Alt}
    {el tl : Int} (h : mwuDecision n1 n2 t u alt el tl = .approx m1 m2 u' numer var) :
    mwuDecision n2 n1 t (((n1 * n2 : Nat) : Rat) - u) alt.mirror el tl
      = .approx m2 m1 (((m1 * m2 : Nat) : Rat) - u') (-numer) var := by
  unfold mwuDecision at h ⊢
  rw [useExact_swap, approxVar_swap]
  split_ifs at h with hE _ hv
  cases h
  rw [if_neg hE, if_neg hv, Nat.mul_comm n2 n1, ← corrected_mirror]
  congr 2
  ring

/-- In the normal-approximation branch, swapping the samples and mirroring the alternative
(less ↔ greater, differs fixed) again lands in the approximation branch, with U replaced by
n1·n2 − U, the continuity-corrected numerator negated and the variance unchanged.  Hence for any Φ
with Φ(−z) = 1 − Φ(z) the one-sided p-values are exchanged and the two-sided one is preserved. -/
theorem numer_swap (x1 x2 : List Rat) (alt : Alt) (el tl : Int) (n1 n2 : Nat) (u numer var : Rat)
    (h : mwuTest x1 x2 alt el tl = .approx n1 n2 u numer var) :
    mwuTest x2 x1 alt.mirror el tl
      = .approx n2 n1 (((n1 * n2 : Nat) : Rat) - u) (-numer) var := by
  rw [mwuTest_eq] at h ⊢
  rw [tvec_swap x1 x2, uFromRanks_swap x1 x2]
  split_ifs at h with h0
  rw [if_neg (mt Or.symm h0)]
  exact mwuDecision_swap h

-- the next example compares two results by evaluation
deriving instance DecidableEq for Res

example : mwuTest [2, 1, 7] [3, 1, 1, 5 / 2] .greater 0 0
    = .approx 3 4 (((4 * 3 : Nat) : Rat) - 5) (-(-1 / 2)) (52 / 7) :=
  numer_swap [3, 1, 1, 5 / 2] [2, 1, 7] .less 0 0 4 3 5 (-1 / 2) (52 / 7) (by decide +kernel)

/-- the three approximate p-values as functions of an abstract tail function `Φ numer var`
(standing for the normal CDF at `numer / √var`) -/
def approxP (Φ : Rat → Rat → Rat) (alt : Alt) (numer var : Rat) : Rat :=
  match alt with
  | .less => Φ numer var
  | .greater => 1 - Φ numer var
  | .differs => 2 * min (Φ numer var) (1 - Φ numer var)

/-- For any Φ with Φ(−z) = 1 − Φ(z): negating the numerator and mirroring the alternative exchanges
the one-sided p-values and preserves the two-sided one (combine with `numer_swap`). -/
theorem approxP_swap (Φ : Rat → Rat → Rat) (hΦ : ∀ n v, Φ (-n) v = 1 - Φ n v) (alt : Alt)
    (numer var : Rat) : approxP Φ alt.mirror (-numer) var = approxP Φ alt numer var := by
  cases alt with
  | less => simp only [Alt.mirror, approxP, hΦ, sub_sub_cancel]
  | greater => simp only [Alt.mirror, approxP, hΦ]
  | differs => simp only [Alt.mirror, approxP, hΦ, sub_sub_cancel, min_comm]

example : approxP (fun n _ => 1 / 2 + n / (2 * (1 + |n|))) .greater (-(3 / 2)) 7
    = approxP (fun n _ => 1 / 2 + n / (2 * (1 + |n|))) .less (3 / 2) 7 :=
  approxP_swap _ (fun n v => by simp only [abs_neg]; ring) .less (3 / 2) 7

end MV.MWU
