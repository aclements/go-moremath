import Mathlib.Tactic
import MV.Model.Scale
/-!
# C17 — tick levels: `FindLevel` finds the least fitting level; linear tick arithmetic

All results are about the exact-rational executable model in `MV/Model/Scale.lean`.
-/
namespace MV.Scale

/-! ## T1: `findLevel = leastLevel` -/

/-- The effective level range used by `FindLevel`: `[-1000, 1000]` when both limits are `0`,
otherwise `[minL, maxL]`. -/
def effRange (minL maxL : Int) : Int × Int :=
  if minL == 0 && maxL == 0 then ((-1000 : Int), (1000 : Int)) else (minL, maxL)

lemma find_range_map_eq_some (p : Int → Bool) (lo : Int) (n : Nat) (l : Int) :
    (((List.range n).map fun (i : Nat) => lo + (i : Int)).find? p) = some l ↔
      lo ≤ l ∧ l < lo + n ∧ p l = true ∧ ∀ l', lo ≤ l' → l' < l → p l' = false := by
  rw [List.find?_map]
  simp only [Option.map_eq_some_iff, List.find?_range_eq_some, Function.comp, List.mem_range]
  constructor
  · rintro ⟨i, ⟨hp, hi, hj⟩, rfl⟩
    refine ⟨by omega, by omega, hp, ?_⟩
    intro l' h1 h2
    have := hj (l' - lo).toNat (by omega)
    have e : lo + ((l' - lo).toNat : Int) = l' := by omega
    rw [e] at this
    simpa using this
  · rintro ⟨h1, h2, hp, hj⟩
    refine ⟨(l - lo).toNat, ⟨?_, by omega, ?_⟩, by omega⟩
    · have e : lo + ((l - lo).toNat : Int) = l := by omega
      rw [e]; exact hp
    · intro j hj'
      have := hj (lo + j) (by omega) (by omega)
      simp [this]

/-- Characterisation of the specification `leastLevel`: it returns `some l` exactly when the
effective range `[lo, hi]` is non-empty, `Max ≥ 1`, `l` lies in the range, the count at `l` fits
(`count l ≤ Max`) and the count at every lower level of the range does not fit. -/
theorem leastLevel_spec (count : Int → Int) (mx minL maxL l : Int) :
    leastLevel count mx minL maxL = some l ↔
      (effRange minL maxL).1 ≤ (effRange minL maxL).2 ∧ 1 ≤ mx ∧
      (effRange minL maxL).1 ≤ l ∧ l ≤ (effRange minL maxL).2 ∧ count l ≤ mx ∧
      ∀ l', (effRange minL maxL).1 ≤ l' → l' < l → mx < count l' := by
  unfold leastLevel
  rw [← effRange]
  rcases effRange minL maxL with ⟨lo, hi⟩
  simp only
  split_ifs with h
  · simp only [false_iff]
    rcases h with h | h <;> omega
  · push Not at h
    rw [find_range_map_eq_some]
    simp only [decide_eq_true_eq, decide_eq_false_iff_not, not_le]
    constructor
    · rintro ⟨h1, h2, h3, h4⟩
      exact ⟨h.1, h.2, h1, by omega, h3, h4⟩
    · rintro ⟨_, _, h1, h2, h3, h4⟩
      exact ⟨h1, by omega, h3, h4⟩

example : leastLevel (fun l => 10 - l) 3 2 20 = some 7 := by decide
example : ∀ l', (effRange 2 20).1 ≤ l' → l' < 7 → (3 : ℤ) < (fun l => 10 - l) l' :=
  ((leastLevel_spec (fun l => 10 - l) 3 2 20 7).1 (by decide)).2.2.2.2.2

lemma walkDown_spec (count : Int → Int) (mx minL : Int) :
    ∀ (f : Nat) (l : Int), minL ≤ l → l - minL ≤ f → count l ≤ mx →
      minL ≤ walkDown count mx minL f l ∧ walkDown count mx minL f l ≤ l ∧
      count (walkDown count mx minL f l) ≤ mx ∧
      (minL ≤ walkDown count mx minL f l - 1 → mx < count (walkDown count mx minL f l - 1)) := by
  intro f
  induction f with
  | zero =>
    intro l h1 h2 h3
    simp only [walkDown]
    refine ⟨h1, le_refl _, h3, ?_⟩
    intro h; simp at h2; omega
  | succ f ih =>
    intro l h1 h2 h3
    simp only [walkDown]
    split_ifs with h
    · obtain ⟨a, b, c, d⟩ := ih (l - 1) h.1 (by push_cast at h2; omega) h.2
      exact ⟨a, by omega, c, d⟩
    · refine ⟨h1, le_refl _, h3, ?_⟩
      intro h'
      by_contra hc
      exact h ⟨h', by omega⟩

lemma walkUp_spec (count : Int → Int) (mx maxL : Int) :
    ∀ (f : Nat) (l : Int), maxL - l + 1 ≤ f → ∀ r,
      (walkUp count mx maxL f l = some r ↔
        l ≤ r ∧ r ≤ maxL ∧ count r ≤ mx ∧ ∀ l', l ≤ l' → l' < r → mx < count l') := by
  intro f
  induction f with
  | zero =>
    intro l h r
    simp only [walkUp, reduceCtorEq, false_iff]
    simp at h
    omega
  | succ f ih =>
    intro l h r
    simp only [walkUp]
    split_ifs with h1 h2
    · simp only [false_iff]; omega
    · rw [ih (l + 1) (by push_cast at h; omega) r]
      constructor
      · rintro ⟨a, b, c, d⟩
        refine ⟨by omega, b, c, ?_⟩
        intro l' h3 h4
        rcases eq_or_lt_of_le h3 with rfl | h5
        · exact h2
        · exact d l' (by omega) h4
      · rintro ⟨a, b, c, d⟩
        have : l ≠ r := by rintro rfl; omega
        exact ⟨by omega, b, c, fun l' h3 h4 => d l' (by omega) h4⟩
    · constructor
      · intro e
        have e' : l = r := by simpa using e
        subst e'
        exact ⟨le_refl _, by omega, by omega, fun l' a b => by omega⟩
      · rintro ⟨a, b, c, d⟩
        rcases eq_or_lt_of_le a with rfl | h5
        · rfl
        · have := d l (le_refl _) h5; omega

/-- **FindLevel is correct for every monotone ticker and every starting guess.**  If the tick
count is non-increasing in the level, `findLevel` (the fuel-based mirror of
`TickOptions.FindLevel`) returns exactly `leastLevel`: the lowest level of the effective range
whose count is at most `Max`, and `none` exactly when no such level exists (or `Max < 1`, or the
range is empty).  In particular the fuel `maxL - minL + 2` is always sufficient. -/
theorem findLevel_eq_leastLevel (count : Int → Int) (hmono : ∀ a b, a ≤ b → count b ≤ count a)
    (mx minL maxL guess : Int) :
    findLevel count mx minL maxL guess = leastLevel count mx minL maxL := by
  have spec := leastLevel_spec count mx minL maxL
  unfold findLevel
  rw [← effRange]
  generalize effRange minL maxL = e at spec ⊢
  obtain ⟨lo, hi⟩ := e
  simp only at spec ⊢
  have hnone : (lo > hi ∨ mx < 1) → none = leastLevel count mx minL maxL := fun h =>
    (Option.eq_none_iff_forall_ne_some.2 fun r hr => by have := (spec r).1 hr; omega).symm
  by_cases h1 : lo > hi
  · rw [if_pos h1]; exact hnone (Or.inl h1)
  by_cases h2 : mx < 1
  · rw [if_neg h1, if_pos h2]; exact hnone (Or.inr h2)
  rw [if_neg h1, if_neg h2]
  generalize hl : (if guess < lo then lo else if guess > hi then hi else guess) = l
  have hl1 : lo ≤ l := by rw [← hl]; split_ifs <;> omega
  have hl2 : l ≤ hi := by rw [← hl]; split_ifs <;> omega
  by_cases h3 : count l ≤ mx
  · -- the guess fits: walk down to the last fitting level; below it nothing fits, by antitonicity
    rw [if_pos h3]
    obtain ⟨a, b, c, d⟩ := walkDown_spec count mx lo (hi - lo + 2).toNat l hl1 (by omega) h3
    refine ((spec _).2 ⟨by omega, by omega, a, by omega, c, fun l' h4 h5 => ?_⟩).symm
    have := d (by omega)
    have := hmono l' (walkDown count mx lo (hi - lo + 2).toNat l - 1) (by omega)
    omega
  · -- the guess does not fit, hence nothing at or below it does: walk up from `l + 1`
    rw [if_neg h3]
    refine Option.ext fun r => ?_
    rw [walkUp_spec count mx hi (hi - lo + 2).toNat (l + 1) (by omega) r, spec]
    constructor
    · rintro ⟨a, b, c, d⟩
      refine ⟨by omega, by omega, by omega, b, c, fun l' h4 h5 => ?_⟩
      by_cases h6 : l + 1 ≤ l'
      · exact d l' h6 h5
      · have := hmono l' l (by omega)
        omega
    · rintro ⟨_, _, h4, h5, h6, h7⟩
      have : l + 1 ≤ r := by
        by_contra hc
        have := hmono r l (by omega)
        omega
      exact ⟨this, h5, h6, fun l' a b => h7 l' (by omega) b⟩

example : findLevel (fun l => 10 - l) 3 2 20 15 = some 7 := by
  rw [findLevel_eq_leastLevel _ (by intro a b h; omega)]; decide

/-- The monotonicity hypothesis cannot be dropped: for a non-monotone count, `FindLevel` started
at guess 5 stops at level 5 although level 3 also fits and is lower. -/
example : findLevel (fun l => if l = 5 ∨ l = 3 then 0 else 10) 3 2 20 5 = some 5 ∧
    leastLevel (fun l => if l = 5 ∨ l = 3 then 0 else 10) 3 2 20 = some 3 := by decide

/-- The specification fails (`none`) exactly when the effective range is empty, or `Max < 1`, or
no level of the range has a fitting count. -/
theorem leastLevel_eq_none_iff (count : Int → Int) (mx minL maxL : Int) :
    leastLevel count mx minL maxL = none ↔
      (effRange minL maxL).2 < (effRange minL maxL).1 ∨ mx < 1 ∨
      ∀ l, (effRange minL maxL).1 ≤ l → l ≤ (effRange minL maxL).2 → mx < count l := by
  unfold leastLevel
  rw [← effRange]
  rcases effRange minL maxL with ⟨lo, hi⟩
  simp only
  split_ifs with h
  · simp only [true_iff]
    rcases h with h | h
    · exact Or.inl h
    · exact Or.inr (Or.inl h)
  · push Not at h
    rw [List.find?_eq_none]
    simp only [List.mem_map, List.mem_range, decide_eq_true_eq, not_le]
    constructor
    · intro H
      refine Or.inr (Or.inr fun l h1 h2 => H l ⟨(l - lo).toNat, by omega, by omega⟩)
    · rintro (H | H | H)
      · omega
      · omega
      · rintro l ⟨i, hi', rfl⟩
        exact H _ (by omega) (by omega)

/-- `FindLevel` on a monotone ticker returns `some l` exactly for the least fitting level. -/
theorem findLevel_eq_some_iff (count : Int → Int) (hmono : ∀ a b, a ≤ b → count b ≤ count a)
    (mx minL maxL guess l : Int) :
    findLevel count mx minL maxL guess = some l ↔
      (effRange minL maxL).1 ≤ (effRange minL maxL).2 ∧ 1 ≤ mx ∧
      (effRange minL maxL).1 ≤ l ∧ l ≤ (effRange minL maxL).2 ∧ count l ≤ mx ∧
      ∀ l', (effRange minL maxL).1 ≤ l' → l' < l → mx < count l' := by
  rw [findLevel_eq_leastLevel count hmono, leastLevel_spec]

/-- `FindLevel` on a monotone ticker fails exactly when `MinLevel > MaxLevel`, or `Max < 1`, or no
level in range fits. -/
theorem findLevel_eq_none_iff (count : Int → Int) (hmono : ∀ a b, a ≤ b → count b ≤ count a)
    (mx minL maxL guess : Int) :
    findLevel count mx minL maxL guess = none ↔
      (effRange minL maxL).2 < (effRange minL maxL).1 ∨ mx < 1 ∨
      ∀ l, (effRange minL maxL).1 ≤ l → l ≤ (effRange minL maxL).2 → mx < count l := by
  rw [findLevel_eq_leastLevel count hmono, leastLevel_eq_none_iff]

example : findLevel (fun l => 10 - l) 3 2 5 4 = none := by
  rw [findLevel_eq_none_iff _ (by intro a b h; omega)]
  refine Or.inr (Or.inr ?_)
  intro l h1 h2
  simp only [effRange] at h1 h2
  simp at h1 h2
  omega

example : effRange 0 0 = (-1000, 1000) ∧ effRange 2 20 = (2, 20) := by decide
example : leastLevel (fun l => 10 - l) 3 2 5 = none :=
  (leastLevel_eq_none_iff _ 3 2 5).2 (Or.inr (Or.inr (by
    intro l h1 h2
    simp only [effRange] at h1 h2
    simp at h1 h2
    omega)))
example : findLevel (fun l => 10 - l) 3 2 20 (-4) = some 7 :=
  (findLevel_eq_some_iff _ (by intro a b h; omega) 3 2 20 (-4) 7).2
    ((leastLevel_spec (fun l => 10 - l) 3 2 20 7).1 (by decide))

/-! ## T2: spacing and monotonicity of linear tick counts -/

lemma foldl_mul_const (b : ℚ) (n : ℕ) : (List.range n).foldl (fun a _ => a * b) 1 = b ^ n := by
  rw [List.foldl_const, List.length_range, mul_right_iterate]; exact one_mul _

lemma ratPowInt_eq (b : ℚ) (e : ℤ) : ratPowInt b e = b ^ e := by
  unfold ratPowInt
  split_ifs with h
  · rw [foldl_mul_const]
    conv_rhs => rw [← Int.toNat_of_nonneg h]
    rw [zpow_natCast]
  · rw [foldl_mul_const]
    have : e = -(((-e).toNat : ℕ) : ℤ) := by omega
    conv_rhs => rw [this]
    rw [zpow_neg, zpow_natCast, one_div]

lemma ebase_pos (base : ℕ) : (0 : ℚ) < (ebase base : ℚ) := by
  unfold ebase
  split_ifs with h
  · norm_num
  · have : base ≠ 0 := by simpa using h
    exact_mod_cast Nat.pos_of_ne_zero this

lemma spacing_eq (base : ℕ) (l : ℤ) :
    spacing base l = (ebase base : ℚ) ^ (l / 2) * (if l % 2 ≠ 0 ∧ base = 0 then 5 else 1) := by
  unfold spacing
  simp only [ratPowInt_eq, Int.fdiv_eq_ediv_of_nonneg l (by norm_num : (0:ℤ) ≤ 2)]
  congr 1
  by_cases h1 : l % 2 = 0 <;> by_cases h2 : base = 0 <;> simp [h1, h2]

/-- Tick spacings are strictly positive at every level, for every base. -/
theorem spacing_pos (base : ℕ) (l : ℤ) : 0 < spacing base l := by
  rw [spacing_eq]
  apply mul_pos (zpow_pos (ebase_pos base) _)
  split_ifs <;> norm_num

example : spacing 0 3 = 50 := by decide +kernel
example : 0 < spacing 0 (-7) := spacing_pos 0 (-7)

/-- The spacing of the next coarser level is a positive integer multiple (1, 2, 5 or `base`) of
the spacing of the current level.  (Holds for every base, including `base = 1`.) -/
theorem spacing_succ_dvd (base : ℕ) (l : ℤ) :
    ∃ k : ℕ, 0 < k ∧ spacing base (l + 1) = k * spacing base l := by
  rw [spacing_eq, spacing_eq]
  rcases Int.emod_two_eq_zero_or_one l with h | h
  · -- `l` even: same power, the odd level of the default base gains the factor 5
    rw [show (l + 1) / 2 = l / 2 by omega]
    by_cases hb : base = 0
    · exact ⟨5, by norm_num, by
        rw [if_pos ⟨by omega, hb⟩, if_neg fun h' => h'.1 h, mul_one, Nat.cast_ofNat, mul_comm]⟩
    · exact ⟨1, one_pos, by
        rw [if_neg fun h' => hb h'.2, if_neg fun h' => hb h'.2, Nat.cast_one, one_mul]⟩
  · -- `l` odd: the power rises by one; in the default base `10 = 2 · 5`
    rw [show (l + 1) / 2 = l / 2 + 1 by omega, zpow_add_one₀ (ebase_pos base).ne',
      if_neg fun h' => h'.1 (by omega)]
    by_cases hb : base = 0
    · exact ⟨2, two_pos, by
        rw [if_pos ⟨by omega, hb⟩, hb]; norm_num [ebase]; ring⟩
    · exact ⟨base, Nat.pos_of_ne_zero hb, by
        rw [if_neg fun h' => hb h'.2, ebase, if_neg (by simpa using hb)]; ring⟩

example : ∃ k : ℕ, 0 < k ∧ spacing 0 (-3 + 1) = k * spacing 0 (-3) := spacing_succ_dvd 0 (-3)

/-- Floor and ceiling of `x / k` (`k` a positive integer) through the multiples of `k`. -/
lemma le_floor_div_iff (x : ℚ) {k : ℕ} (hk : 0 < k) (z : ℤ) :
    z ≤ (x / k).floor ↔ (k : ℤ) * z ≤ x.floor := by
  rw [Rat.le_floor_iff, Rat.le_floor_iff, le_div_iff₀ (Nat.cast_pos.2 hk), Int.cast_mul,
    Int.cast_natCast, mul_comm]

lemma ceil_div_le_iff (x : ℚ) {k : ℕ} (hk : 0 < k) (z : ℤ) :
    (x / k).ceil ≤ z ↔ x.ceil ≤ (k : ℤ) * z := by
  rw [Rat.ceil_le_iff, Rat.ceil_le_iff, div_le_iff₀ (Nat.cast_pos.2 hk), Int.cast_mul,
    Int.cast_natCast, mul_comm]

/-- If the multiples `k a`, `k b` of two integers lie between `U` and `V` (`k ≥ 1`), they are no
further apart than `U` and `V`; if they are in the wrong order, `U ≤ V + 1` is enough. -/
lemma sub_le_sub_of_mul {k a b U V : ℤ} (hk : 1 ≤ k) (h1 : U ≤ k * a) (h2 : k * b ≤ V)
    (h3 : U - 1 ≤ V) : b - a ≤ V - U := by
  by_cases h : a ≤ b
  · have := le_mul_of_one_le_left (sub_nonneg.2 h) hk
    linarith
  · omega

/-- Dividing both ends of `[u, v]` by `k ≥ 1` cannot raise the number of integers inside (here in the
form `⌊v⌋ − ⌈u⌉`): the integers of `[u/k, v/k]`, multiplied by `k`, are integers of `[u, v]`. -/
lemma floor_ceil_step_in (u v : ℚ) (k : ℕ) (hk : 0 < k) (huv : u ≤ v) :
    (v / k).floor - (u / k).ceil ≤ v.floor - u.ceil := by
  have h3 : u.ceil - 1 < v.floor + 1 := Int.cast_lt.1
    ((Rat.lt_ceil_iff.1 (sub_one_lt _)).trans_le (huv.trans (Rat.lt_floor_add_one v).le))
  exact sub_le_sub_of_mul (Int.natCast_pos.2 hk) ((ceil_div_le_iff u hk _).1 le_rfl)
    ((le_floor_div_iff v hk _).1 le_rfl) (by omega)

/-- The same for the integer hull `[⌊u⌋, ⌈v⌉]` of a proper interval `u < v`, with the neighbours
`⌊u/k⌋ + 1`, `⌈v/k⌉ − 1` and `⌊u⌋ + 1`, `⌈v⌉ − 1` in the roles of `a`, `b`, `U`, `V`. -/
lemma floor_ceil_step_out (u v : ℚ) (k : ℕ) (hk : 0 < k) (huv : u < v) :
    (v / k).ceil - (u / k).floor ≤ v.ceil - u.floor := by
  have h1 : u.floor < k * ((u / k).floor + 1) :=
    lt_of_not_ge fun h => by have := (le_floor_div_iff u hk _).2 h; omega
  have h2 : k * ((v / k).ceil - 1) < v.ceil :=
    lt_of_not_ge fun h => by have := (ceil_div_le_iff v hk _).2 h; omega
  have h3 : u.floor < v.ceil :=
    Int.cast_lt.1 ((Rat.floor_le u).trans_lt (huv.trans_le Rat.le_ceil))
  have := sub_le_sub_of_mul (Int.natCast_pos.2 hk) (Int.add_one_le_iff.2 h1)
    (Int.le_sub_one_iff.2 h2) (by omega)
  omega

lemma linCount_false (mn mx : ℚ) (base : ℕ) (sf : ℚ) (l : ℤ) :
    linCount mn mx base false sf l =
      ((mx + (mx - mn) * sf) / spacing base l).floor -
        ((mn - (mx - mn) * sf) / spacing base l).ceil + 1 := rfl

lemma linCount_true (mn mx : ℚ) (base : ℕ) (sf : ℚ) (l : ℤ) :
    linCount mn mx base true sf l =
      ((mx - (mx - mn) * sf) / spacing base l).ceil -
        ((mn + (mx - mn) * sf) / spacing base l).floor + 1 := rfl

lemma linCount_succ_le_in (mn mx : ℚ) (h : mn ≤ mx) (base : ℕ) (sf : ℚ) (hsf : 0 ≤ sf) (l : ℤ) :
    linCount mn mx base false sf (l + 1) ≤ linCount mn mx base false sf l := by
  obtain ⟨k, hk, e⟩ := spacing_succ_dvd base l
  have hs := spacing_pos base l
  have hsl : 0 ≤ (mx - mn) * sf := mul_nonneg (sub_nonneg.2 h) hsf
  rw [linCount_false, linCount_false, e, div_mul_eq_div_div_swap, div_mul_eq_div_div_swap]
  have := floor_ceil_step_in ((mn - (mx - mn) * sf) / spacing base l)
    ((mx + (mx - mn) * sf) / spacing base l) k hk
    (div_le_div_of_nonneg_right (by linarith) hs.le)
  omega

lemma linCount_succ_le_out (mn mx : ℚ) (base : ℕ) (sf : ℚ)
    (hlt : mn + (mx - mn) * sf < mx - (mx - mn) * sf) (l : ℤ) :
    linCount mn mx base true sf (l + 1) ≤ linCount mn mx base true sf l := by
  obtain ⟨k, hk, e⟩ := spacing_succ_dvd base l
  have hs := spacing_pos base l
  rw [linCount_true, linCount_true, e, div_mul_eq_div_div_swap, div_mul_eq_div_div_swap]
  have := floor_ceil_step_out ((mn + (mx - mn) * sf) / spacing base l)
    ((mx - (mx - mn) * sf) / spacing base l) k hk
    (div_lt_div_of_pos_right hlt hs)
  omega

/-- **Linear tick counts are non-increasing in the level** (ticks inside the domain,
`roundOut = false`): for `mn ≤ mx` and a non-negative slack factor, a coarser level never has more
ticks, because every multiple of the coarser spacing is a multiple of the finer one.  Holds for
every base, `base = 1` included. -/
theorem linCount_antitone (mn mx : ℚ) (h : mn ≤ mx) (base : ℕ) (sf : ℚ) (hsf : 0 ≤ sf)
    (a b : ℤ) (hab : a ≤ b) :
    linCount mn mx base false sf b ≤ linCount mn mx base false sf a :=
  antitone_int_of_succ_le (linCount_succ_le_in mn mx h base sf hsf) hab

example : linCount 3 47 0 false slackFactor 2 ≤ linCount 3 47 0 false slackFactor (-1) :=
  linCount_antitone 3 47 (by norm_num) 0 slackFactor (by decide +kernel) (-1) 2 (by norm_num)

example : linCount 3 47 0 false slackFactor 2 = 4 ∧ linCount 3 47 0 false slackFactor (-1) = 89 := by
  decide +kernel

/-- Round-out counts (`roundOut = true`, used by `Nice`) are also non-increasing in the level,
**provided the slack-shrunk domain is a proper interval**, i.e. `mn + slack < mx - slack`
(equivalently `mn < mx` and `sf < 1/2`).  With only `mn ≤ mx`, `0 ≤ sf` the statement is
FALSE for `roundOut = true`: for the degenerate domain `mn = mx = 25` (base 0, `sf = 0`) level 1
(spacing 5) has count 1 but level 2 (spacing 10) has count 2 — see the `example` below; the same
happens for `mn = 0, mx = 50, sf = 1/2`. -/
theorem linCount_antitone_roundOut_of_lt (mn mx : ℚ) (base : ℕ) (sf : ℚ)
    (hlt : mn + (mx - mn) * sf < mx - (mx - mn) * sf) (a b : ℤ) (hab : a ≤ b) :
    linCount mn mx base true sf b ≤ linCount mn mx base true sf a :=
  antitone_int_of_succ_le (linCount_succ_le_out mn mx base sf hlt) hab

/-- The round-out monotonicity for `mn < mx` and `sf < 1/2`. -/
theorem linCount_antitone_roundOut (mn mx : ℚ) (h : mn < mx) (base : ℕ) (sf : ℚ)
    (hsf2 : sf < 1 / 2) (a b : ℤ) (hab : a ≤ b) :
    linCount mn mx base true sf b ≤ linCount mn mx base true sf a := by
  apply linCount_antitone_roundOut_of_lt _ _ _ _ _ a b hab
  have : (mx - mn) * sf < (mx - mn) * (1 / 2) := mul_lt_mul_of_pos_left hsf2 (sub_pos.2 h)
  linarith

example : linCount 3 47 0 true slackFactor 3 ≤ linCount 3 47 0 true slackFactor 0 :=
  linCount_antitone_roundOut 3 47 (by norm_num) 0 slackFactor (by decide +kernel) 0 3
    (by norm_num)

/-- Counterexample: round-out counts are NOT monotone on a degenerate domain. -/
example : ¬ (linCount 25 25 0 true 0 2 ≤ linCount 25 25 0 true 0 1) := by decide +kernel
/-- Counterexample with `mn < mx` but slack factor `1/2`. -/
example : ¬ (linCount 0 50 0 true (1/2) 2 ≤ linCount 0 50 0 true (1/2) 1) := by decide +kernel

/-- Both variants of the count, as one statement over `roundOut : Bool`, for a proper domain and a
small slack factor. -/
theorem linCount_antitone_bool (mn mx : ℚ) (h : mn < mx) (base : ℕ) (ro : Bool) (sf : ℚ)
    (hsf : 0 ≤ sf) (hsf2 : sf < 1 / 2) (a b : ℤ) (hab : a ≤ b) :
    linCount mn mx base ro sf b ≤ linCount mn mx base ro sf a := by
  cases ro
  · exact linCount_antitone mn mx h.le base sf hsf a b hab
  · exact linCount_antitone_roundOut mn mx h base sf hsf2 a b hab

example : linCount 3 47 0 true slackFactor 3 ≤ linCount 3 47 0 true slackFactor 0 :=
  linCount_antitone_bool 3 47 (by norm_num) 0 true slackFactor (by decide +kernel)
    (by decide +kernel) 0 3 (by norm_num)

/-! ## T3: the ticks at a level -/

lemma linTicksAt_eq (mn mx : ℚ) (base : ℕ) (l : ℤ) (sf : ℚ) :
    linTicksAt mn mx base l sf =
      (List.range (((mx + (mx - mn) * sf) / spacing base l).floor -
        ((mn - (mx - mn) * sf) / spacing base l).ceil + 1).toNat).map
        fun (i : ℕ) => ((((mn - (mx - mn) * sf) / spacing base l).ceil + (i : ℤ) : ℤ) : ℚ) *
          spacing base l := rfl

/-- `CountTicks(l) = len(TicksAtLevel(l))`. -/
theorem linTicksAt_length (mn mx : ℚ) (base : ℕ) (l : ℤ) (sf : ℚ) :
    (linTicksAt mn mx base l sf).length = (linCount mn mx base false sf l).toNat := by
  rw [linTicksAt_eq, linCount_false]; simp

example : (linTicksAt 3 47 0 2 slackFactor).length = 4 := by
  rw [linTicksAt_length]; decide +kernel

/-- The ticks at a level are strictly ascending. -/
theorem linTicksAt_sorted (mn mx : ℚ) (base : ℕ) (l : ℤ) (sf : ℚ) :
    (linTicksAt mn mx base l sf).Pairwise (· < ·) := by
  rw [linTicksAt_eq]
  apply List.Pairwise.map _ _ List.pairwise_lt_range
  intro i j hij
  apply mul_lt_mul_of_pos_right _ (spacing_pos base l)
  exact_mod_cast (by omega : ((mn - (mx - mn) * sf) / spacing base l).ceil + (i : ℤ) <
    ((mn - (mx - mn) * sf) / spacing base l).ceil + (j : ℤ))

example : (linTicksAt 3 47 0 2 slackFactor).Pairwise (· < ·) := linTicksAt_sorted _ _ _ _ _
example : linTicksAt 3 47 0 2 slackFactor = [10, 20, 30, 40] := by decide +kernel

/-- Exact membership: the ticks at level `l` are precisely the integer multiples of the spacing
that lie in the slack-extended domain `[mn - slack, mx + slack]`. -/
theorem linTicksAt_mem_iff (mn mx : ℚ) (base : ℕ) (l : ℤ) (sf t : ℚ) :
    t ∈ linTicksAt mn mx base l sf ↔
      ∃ k : ℤ, t = k * spacing base l ∧ mn - (mx - mn) * sf ≤ t ∧ t ≤ mx + (mx - mn) * sf := by
  have hs := spacing_pos base l
  rw [linTicksAt_eq]
  simp only [List.mem_map, List.mem_range]
  constructor
  · rintro ⟨i, hi, rfl⟩
    refine ⟨_, rfl, ?_, ?_⟩
    · rw [← div_le_iff₀ hs, ← Rat.ceil_le_iff]; omega
    · rw [← le_div_iff₀ hs, ← Rat.le_floor_iff]; omega
  · rintro ⟨k, rfl, h1, h2⟩
    rw [← div_le_iff₀ hs, ← Rat.ceil_le_iff] at h1
    rw [← le_div_iff₀ hs, ← Rat.le_floor_iff] at h2
    refine ⟨(k - ((mn - (mx - mn) * sf) / spacing base l).ceil).toNat, by omega, ?_⟩
    congr 2
    omega

/-- Every tick is a "nice" value (an integer multiple of the level's spacing) inside the
slack-extended domain. -/
theorem linTicksAt_mem (mn mx : ℚ) (base : ℕ) (l : ℤ) (sf t : ℚ)
    (ht : t ∈ linTicksAt mn mx base l sf) :
    ∃ k : ℤ, t = k * spacing base l ∧ mn - (mx - mn) * sf ≤ t ∧ t ≤ mx + (mx - mn) * sf :=
  (linTicksAt_mem_iff mn mx base l sf t).1 ht

example : ∃ k : ℤ, (30 : ℚ) = k * spacing 0 2 ∧ 3 - (47 - 3) * slackFactor ≤ (30 : ℚ) ∧
    (30 : ℚ) ≤ 47 + (47 - 3) * slackFactor :=
  linTicksAt_mem 3 47 0 2 slackFactor 30 (by decide +kernel)

/-- Major ticks are minor ticks: every tick of level `l` is also a tick of level `l - 1`. -/
theorem linTicks_major_subset_minor (mn mx : ℚ) (base : ℕ) (l : ℤ) (sf t : ℚ)
    (ht : t ∈ linTicksAt mn mx base l sf) : t ∈ linTicksAt mn mx base (l - 1) sf := by
  rw [linTicksAt_mem_iff] at ht ⊢
  obtain ⟨k, rfl, h1, h2⟩ := ht
  obtain ⟨m, _, e⟩ := spacing_succ_dvd base (l - 1)
  rw [sub_add_cancel] at e
  refine ⟨k * m, ?_, h1, h2⟩
  rw [e]; push_cast; ring

example : (30 : ℚ) ∈ linTicksAt 3 47 0 1 slackFactor :=
  linTicks_major_subset_minor 3 47 0 2 slackFactor 30 (by decide +kernel)

/-! ## T4: `Linear.Ticks` -/

/-- If `Linear.Ticks` succeeds with level `l`, then the major ticks are the ticks of level `l`, the
minor ticks those of level `l - 1`, there are at most `maxT` major ticks, and `l` is the finest
(lowest) level of the effective level range that fits: every lower level in range has more than
`maxT` ticks. -/
theorem linTicks_count_le (mn mx : ℚ) (h : mn ≤ mx) (base : ℕ) (maxT minL maxL : ℤ) (sf : ℚ)
    (hsf : 0 ≤ sf) (l : ℤ) (major minor : List ℚ)
    (hT : linTicks mn mx base maxT minL maxL sf = some (l, major, minor)) :
    major = linTicksAt mn mx base l sf ∧ minor = linTicksAt mn mx base (l - 1) sf ∧
    (major.length : ℤ) ≤ maxT ∧
    (effRange minL maxL).1 ≤ l ∧ l ≤ (effRange minL maxL).2 ∧
    ∀ l', (effRange minL maxL).1 ≤ l' → l' < l →
      maxT < ((linTicksAt mn mx base l' sf).length : ℤ) := by
  unfold linTicks at hT
  rw [findLevel_eq_leastLevel _ (linCount_antitone mn mx h base sf hsf)] at hT
  cases hL : leastLevel (linCount mn mx base false sf) maxT minL maxL with
  | none => rw [hL] at hT; simp at hT
  | some l0 =>
    rw [hL] at hT
    simp only [Option.some.injEq, Prod.mk.injEq] at hT
    obtain ⟨rfl, rfl, rfl⟩ := hT
    rw [leastLevel_spec] at hL
    obtain ⟨_, h1, h2, h3, h4, h5⟩ := hL
    refine ⟨rfl, rfl, ?_, h2, h3, ?_⟩
    · rw [linTicksAt_length]; omega
    · intro l' a b
      have := h5 l' a b
      rw [linTicksAt_length]; omega

example : linTicks 3 47 0 5 0 0 slackFactor = some (2, [10, 20, 30, 40],
    [5, 10, 15, 20, 25, 30, 35, 40, 45]) := by decide +kernel
example : ((([10, 20, 30, 40] : List ℚ).length : ℤ) ≤ 5) ∧
    (5 : ℤ) < ((linTicksAt 3 47 0 1 slackFactor).length : ℤ) :=
  let h := linTicks_count_le 3 47 (by norm_num) 0 5 0 0 slackFactor (by decide +kernel) 2
    [10, 20, 30, 40] [5, 10, 15, 20, 25, 30, 35, 40, 45] (by decide +kernel)
  ⟨h.2.2.1, h.2.2.2.2.2 1 (by decide) (by decide)⟩

/-! ## T5: `Linear.Nice` -/

/-- `Nice` never shrinks the domain beyond the slack, its new bounds are integer multiples of the
chosen level's spacing, and it extends the domain by less than one spacing at each end. -/
theorem linNice_covers (mn mx : ℚ) (h : mn ≤ mx) (base : ℕ) (maxT minL maxL : ℤ) (sf : ℚ)
    (hsf : 0 ≤ sf) (l : ℤ) (a b : ℚ)
    (hN : linNice mn mx base maxT minL maxL sf = some (l, a, b)) :
    a ≤ mn + (mx - mn) * sf ∧ mx - (mx - mn) * sf ≤ b ∧
    (∃ ka : ℤ, a = ka * spacing base l) ∧ (∃ kb : ℤ, b = kb * spacing base l) ∧
    mn - spacing base l < a ∧ b < mx + spacing base l := by
  unfold linNice at hN
  cases hL : findLevel (linCount mn mx base true sf) maxT minL maxL 0 with
  | none => rw [hL] at hN; simp at hN
  | some l0 =>
    rw [hL] at hN
    have hs := spacing_pos base l
    have hsl : 0 ≤ (mx - mn) * sf := mul_nonneg (sub_nonneg.2 h) hsf
    change some (l0, (((mn + (mx - mn) * sf) / spacing base l0).floor : ℚ) * spacing base l0,
      (((mx - (mx - mn) * sf) / spacing base l0).ceil : ℚ) * spacing base l0) = _ at hN
    simp only [Option.some.injEq, Prod.mk.injEq] at hN
    obtain ⟨rfl, rfl, rfl⟩ := hN
    refine ⟨?_, ?_, ⟨_, rfl⟩, ⟨_, rfl⟩, ?_, ?_⟩
    · rw [← le_div_iff₀ hs]; exact Rat.floor_le _
    · rw [← div_le_iff₀ hs]; exact Rat.le_ceil
    · have := Rat.lt_floor_add_one ((mn + (mx - mn) * sf) / spacing base l0)
      rw [div_lt_iff₀ hs] at this
      push_cast at this
      linarith
    · have := Rat.ceil_lt (x := (mx - (mx - mn) * sf) / spacing base l0)
      rw [← sub_lt_iff_lt_add, lt_div_iff₀ hs] at this
      linarith

example : linNice 3 47 0 5 0 0 slackFactor = some (3, 0, 50) := by decide +kernel
example : (0 : ℚ) ≤ 3 + (47 - 3) * slackFactor ∧ 47 - (47 - 3) * slackFactor ≤ (50 : ℚ) ∧
    3 - spacing 0 3 < (0 : ℚ) ∧ (50 : ℚ) < 47 + spacing 0 3 :=
  let h := linNice_covers 3 47 (by norm_num) 0 5 0 0 slackFactor (by decide +kernel) 3 0 50
    (by decide +kernel)
  ⟨h.1, h.2.1, h.2.2.2.2.1, h.2.2.2.2.2⟩

/-- For a proper domain and slack factor below `1/2`, the level chosen by `Nice` is the lowest
level of the effective range whose round-out count is at most `maxT`. -/
theorem linNice_level (mn mx : ℚ) (h : mn < mx) (base : ℕ) (maxT minL maxL : ℤ) (sf : ℚ)
    (hsf : 0 ≤ sf) (hsf2 : sf < 1 / 2) (l : ℤ) (a b : ℚ)
    (hN : linNice mn mx base maxT minL maxL sf = some (l, a, b)) :
    linCount mn mx base true sf l ≤ maxT ∧
    (effRange minL maxL).1 ≤ l ∧ l ≤ (effRange minL maxL).2 ∧
    ∀ l', (effRange minL maxL).1 ≤ l' → l' < l → maxT < linCount mn mx base true sf l' := by
  unfold linNice at hN
  cases hL : findLevel (linCount mn mx base true sf) maxT minL maxL 0 with
  | none => rw [hL] at hN; simp at hN
  | some l0 =>
    rw [hL] at hN
    have e : l0 = l := by
      have := congrArg (fun o : Option (ℤ × ℚ × ℚ) => o.map Prod.fst) hN
      simpa using this
    subst e
    rw [findLevel_eq_some_iff _ (linCount_antitone_roundOut mn mx h base sf hsf2)] at hL
    exact ⟨hL.2.2.2.2.1, hL.2.2.1, hL.2.2.2.1, hL.2.2.2.2.2⟩

example : linCount 3 47 0 true slackFactor 3 ≤ 5 ∧ (5 : ℤ) < linCount 3 47 0 true slackFactor 2 :=
  let h := linNice_level 3 47 (by norm_num) 0 5 0 0 slackFactor (by decide +kernel)
    (by decide +kernel) 3 0 50 (by decide +kernel)
  ⟨h.1, h.2.2.2 2 (by decide) (by decide)⟩

end MV.Scale
