import MV.Props.C08GammaTail
/-!
# C08 — the series of `C08GammaSeries` IS the regularised lower incomplete gamma function

`C08GammaSeries` proves that the series branch of `gammaRegIWith` encloses

    x^a · e^(−x) / Γ(a+1) · S(a,x),   S(a,x) = ∑' n, x^n / ∏ j < n, (a + j + 1).

This file proves the classical identity

    γ(a,x) = ∫₀ˣ t^(a−1) e^(−t) dt = x^a e^(−x) / a · S(a,x)        (`lowerGamma_series`)

for `a > 0`, `x ≥ 0`, its regularised form (`lowerGammaReg_series`) and, from the splitting
`γ(a,x) + Γ(a,x) = Γ(a)` (`lower_add_upper` of `C08GammaTail`), `P = 1 − Q` with `Q = upperGammaQ`
(`lowerGammaReg_eq_one_sub_upperGammaQ`, `gammaSeries_eq_one_sub_upperGammaQ`).  With these the
intervals of the model contain `P(a,x)` itself, written as the integral over `Γ(a)`
(`gammaRegIWith_series_encloses_P`) or as `1 − Q(a,x)` (`gammaRegIWith_encloses_P`, both branches);
the two forms and the series form `x^a e^(−x)/Γ(a+1)·S(a,x)` are the same number by the theorems
just named.

Proof of the identity: integration by parts gives `a·γ(a,x) = x^a e^(−x) + γ(a+1,x)`
(`lowerGamma_succ`) and `e^(−t) ≤ 1` gives `γ(b,x) ≤ x^b/b` (`lowerGamma_le`); these are the
hypotheses of `series_of_recurrence` (`C08HypSeries`), which iterates the recurrence and lets the
remainder tend to `0`.
-/
namespace MV.Special
open MeasureTheory Set Finset Filter Topology intervalIntegral

/-- the (unregularised) lower incomplete gamma function `γ(a,x) = ∫₀ˣ t^(a−1) e^(−t) dt` -/
noncomputable def lowerGamma (a x : ℝ) : ℝ := ∫ t in (0 : ℝ)..x, t ^ (a - 1) * Real.exp (-t)

section
variable {a x : ℝ}

lemma lowerIntegrand_intervalIntegrable (ha : 0 < a) (u v : ℝ) :
    IntervalIntegrable (fun t : ℝ => t ^ (a - 1) * Real.exp (-t)) volume u v :=
  (intervalIntegrable_rpow' (by linarith)).mul_continuousOn
    (Real.continuous_exp.comp continuous_neg).continuousOn

lemma lowerGamma_zero (a : ℝ) : lowerGamma a 0 = 0 := by simp [lowerGamma]

lemma lowerGamma_nonneg (a : ℝ) (hx : 0 ≤ x) : 0 ≤ lowerGamma a x :=
  integral_nonneg hx fun _ ht => mul_nonneg (Real.rpow_nonneg ht.1 _) (Real.exp_pos _).le

/-- `γ(b,x) ≤ x^b / b` (bound `e^(−t) ≤ 1`) -/
lemma lowerGamma_le {b : ℝ} (hb : 0 < b) (hx : 0 ≤ x) : lowerGamma b x ≤ x ^ b / b := by
  rw [← one_mul (x ^ b / b)]
  exact integral_rpow_mul_le hb hx (lowerIntegrand_intervalIntegrable hb 0 x)
    fun t ht => Real.exp_le_one_iff.mpr (neg_nonpos.mpr ht.1)

/-- integration by parts: `a·γ(a,x) = x^a e^(−x) + γ(a+1,x)` -/
lemma lowerGamma_succ (ha : 0 < a) (hx : 0 ≤ x) :
    a * lowerGamma a x = x ^ a * Real.exp (-x) + lowerGamma (a + 1) x := by
  have hF : ∫ t in (0 : ℝ)..x,
        (a * (t ^ (a - 1) * Real.exp (-t)) - t ^ (a + 1 - 1) * Real.exp (-t))
      = x ^ a * Real.exp (-x) - (0 : ℝ) ^ a * Real.exp (-0) := by
    apply integral_eq_sub_of_hasDerivAt_of_le hx (f := fun t => t ^ a * Real.exp (-t))
    · exact ((Real.continuous_rpow_const ha.le).mul
        (Real.continuous_exp.comp continuous_neg)).continuousOn
    · intro t ht
      have h1 := Real.hasDerivAt_rpow_const (x := t) (p := a) (Or.inl ht.1.ne')
      have h2 : HasDerivAt (fun t => Real.exp (-t)) (-Real.exp (-t)) t := by
        simpa using (hasDerivAt_neg t).exp
      refine (h1.mul h2).congr_deriv ?_
      rw [add_sub_cancel_right]
      ring
    · exact ((lowerIntegrand_intervalIntegrable ha 0 x).const_mul a).sub
        (lowerIntegrand_intervalIntegrable (by linarith) 0 x)
  rw [integral_sub ((lowerIntegrand_intervalIntegrable ha 0 x).const_mul a)
    (lowerIntegrand_intervalIntegrable (by linarith) 0 x), intervalIntegral.integral_const_mul,
    Real.zero_rpow ha.ne'] at hF
  unfold lowerGamma
  linarith

lemma gT_summable_all (ha : 0 < a) (hx : 0 < x) : Summable (hT (gq a x)) := by
  obtain ⟨n, hn⟩ := exists_nat_ge (2 * x)
  refine hT_summable (fun k => (gq_pos ha hx k).le) (gq_le_half ha hx (n := n) ?_) one_half_lt_one
  unfold gq
  rw [div_le_iff₀ (gden_pos ha n)]
  linarith

end

/-- The lower incomplete gamma function equals its series.  For `a > 0` and `x ≥ 0`,
`∫₀ˣ t^(a−1) e^(−t) dt = x^a e^(−x) / a · ∑ₙ x^n / ((a+1)(a+2)…(a+n))`. -/
theorem lowerGamma_series {a x : ℝ} (ha : 0 < a) (hx : 0 ≤ x) :
    ∫ t in (0 : ℝ)..x, t ^ (a - 1) * Real.exp (-t) =
      x ^ a * Real.exp (-x) / a * ∑' n : ℕ, x ^ n / ∏ j ∈ Finset.range n, (a + j + 1) := by
  rcases hx.eq_or_lt with rfl | hx
  · simp [Real.zero_rpow ha.ne']
  have hq : (fun j : ℕ => 1 * x / (a + 1 + j)) = gq a x := funext fun j => by
    rw [gq, one_mul, add_right_comm]
  have h := series_of_recurrence (F := fun n : ℕ => lowerGamma (a + n) x) (ρ := fun _ => 1) (M := 1)
    ha hx (fun _ => zero_le_one)
    (fun n => by
      rw [lowerGamma_succ (a := a + n) (by positivity) hx.le, Nat.cast_succ, ← add_assoc, one_mul])
    (fun n => lowerGamma_nonneg _ hx.le)
    (fun n => by rw [one_mul]; exact lowerGamma_le (by positivity) hx.le)
    (by rw [hq]; exact gT_summable_all ha hx)
  rw [Nat.cast_zero, add_zero, hq] at h
  simp only [← hT_gq]
  exact h

/-- For `a > 0`, `x ≥ 0`:
`γ(a,x)/Γ(a) = x^a e^(−x) / Γ(a+1) · ∑ₙ x^n / ((a+1)…(a+n))` — the right-hand side is exactly the
quantity enclosed by the series branch of `gammaRegIWith` (`gammaRegIWith_series_sound`). -/
theorem lowerGammaReg_series {a x : ℝ} (ha : 0 < a) (hx : 0 ≤ x) :
    (∫ t in (0 : ℝ)..x, t ^ (a - 1) * Real.exp (-t)) / Real.Gamma a =
      x ^ a * Real.exp (-x) / Real.Gamma (a + 1) *
        ∑' n : ℕ, x ^ n / ∏ j ∈ Finset.range n, (a + j + 1) := by
  rw [lowerGamma_series ha hx, Real.Gamma_add_one ha.ne']
  ring

/-- The regularised lower incomplete gamma function is one minus the regularised
upper one (`upperGammaQ` of `C08GammaTail`). -/
theorem lowerGammaReg_eq_one_sub_upperGammaQ {a x : ℝ} (ha : 0 < a) (hx : 0 ≤ x) :
    (∫ t in (0 : ℝ)..x, t ^ (a - 1) * Real.exp (-t)) / Real.Gamma a = 1 - upperGammaQ a x := by
  have hG := (Real.Gamma_pos_of_pos ha).ne'
  unfold upperGammaQ
  rw [eq_sub_iff_add_eq, ← add_div, lower_add_upper ha hx, div_self hG]

/-- The series branch and the far-tail branch compute the same function.  The quantity
enclosed by the series branch, `x^a e^(−x)/Γ(a+1) · S(a,x)`, equals `1 − Q(a,x)`. -/
theorem gammaSeries_eq_one_sub_upperGammaQ {a x : ℝ} (ha : 0 < a) (hx : 0 ≤ x) :
    x ^ a * Real.exp (-x) / Real.Gamma (a + 1) *
        ∑' n : ℕ, x ^ n / ∏ j ∈ Finset.range n, (a + j + 1) = 1 - upperGammaQ a x := by
  rw [← lowerGammaReg_series ha hx, lowerGammaReg_eq_one_sub_upperGammaQ ha hx]

open MV MV.I in
/-- The series branch of `gammaRegIWith` encloses the regularised lower incomplete gamma
function itself.  For rationals `a > 0`, `0 < x ≤ 2a+100` and `lg ∋ log Γ(a+1)`: any interval
returned by `gammaRegIWith lg a x` contains `P(a,x) = (∫₀ˣ t^(a−1)e^(−t)dt)/Γ(a)`. -/
theorem gammaRegIWith_series_encloses_P (lg : I) (a x : ℚ) (ha : 0 < a) (hx0 : 0 < x)
    (hx : ¬ x > 2 * a + 100) (hlg : Mem (Real.log (Real.Gamma ((a : ℝ) + 1))) lg)
    (r : I) (h : gammaRegIWith lg a x = some r) :
    Mem ((∫ t in (0 : ℝ)..(x : ℝ), t ^ ((a : ℝ) - 1) * Real.exp (-t)) / Real.Gamma (a : ℝ)) r := by
  have haR : (0 : ℝ) < (a : ℝ) := Rat.cast_pos.mpr ha
  have hxR : (0 : ℝ) < (x : ℝ) := Rat.cast_pos.mpr hx0
  rw [lowerGammaReg_series haR hxR.le]
  exact gammaRegIWith_series_sound lg a x ha hx0 hx hlg r h

open MV MV.I in
/-- Both branches of `gammaRegIWith` enclose the same function `P(a,x) = 1 − Q(a,x)`.  For
rationals `a > 0`, `x > 0` and `lg ∋ log Γ(a+1)`: any interval returned by `gammaRegIWith lg a x`
contains `1 − upperGammaQ a x` (series branch for `x ≤ 2a+100`, far-tail branch otherwise). -/
theorem gammaRegIWith_encloses_P (lg : I) (a x : ℚ) (ha : 0 < a) (hx0 : 0 < x)
    (hlg : Mem (Real.log (Real.Gamma ((a : ℝ) + 1))) lg)
    (r : I) (h : gammaRegIWith lg a x = some r) :
    Mem (1 - upperGammaQ (a : ℝ) (x : ℝ)) r := by
  have haR : (0 : ℝ) < (a : ℝ) := Rat.cast_pos.mpr ha
  have hxR : (0 : ℝ) < (x : ℝ) := Rat.cast_pos.mpr hx0
  by_cases hx : x > 2 * a + 100
  · obtain ⟨r', hr', hm⟩ := gammaRegIWith_farTail_sound lg a x ha hx hlg
    rw [h] at hr'
    injection hr' with hr'
    rw [hr']
    exact hm
  · rw [← gammaSeries_eq_one_sub_upperGammaQ haR hxR.le]
    exact gammaRegIWith_series_sound lg a x ha hx0 hx hlg r h

open MV MV.I in
/-- `a = 5/2`, `x = 3`, `lg = [1, 2] ∋ log Γ(7/2)`: the model returns an interval and
it contains `P(5/2, 3) = 1 − Q(5/2, 3)` -/
example : ∃ r, gammaRegIWith ⟨1, 2⟩ (5 / 2) 3 = some r ∧
    Mem (1 - upperGammaQ (((5 / 2 : ℚ)) : ℝ) (((3 : ℚ)) : ℝ)) r ∧
    Mem ((∫ t in (0 : ℝ)..(((3 : ℚ)) : ℝ), t ^ ((((5 / 2 : ℚ)) : ℝ) - 1) * Real.exp (-t)) /
      Real.Gamma (((5 / 2 : ℚ)) : ℝ)) r := by
  obtain ⟨ser, hser⟩ := Option.isSome_iff_exists.mp gammaSer_five_halves_three_isSome
  have h1 := (gammaSeries_sound ⟨1, 2⟩ (5 / 2) 3 (by norm_num) (by norm_num) (by norm_num)
    ser hser).1
  exact ⟨_, h1,
    gammaRegIWith_encloses_P ⟨1, 2⟩ (5 / 2) 3 (by norm_num) (by norm_num)
      log_Gamma_seven_halves_mem _ h1,
    gammaRegIWith_series_encloses_P ⟨1, 2⟩ (5 / 2) 3 (by norm_num) (by norm_num)
      (by norm_num) log_Gamma_seven_halves_mem _ h1⟩

lemma lowerGamma_one_eq (x : ℝ) :
    ∫ t in (0 : ℝ)..x, t ^ ((1 : ℝ) - 1) * Real.exp (-t) = 1 - Real.exp (-x) := by
  simp

/-- `lowerGamma_series` at `a = 1`: `x e^(−x) ∑ₙ x^n/(n+1)! = 1 − e^(−x)` (denominators written as
the products `2·3·…·(n+1)`). -/
example (x : ℝ) (hx : 0 ≤ x) :
    x * Real.exp (-x) * ∑' n : ℕ, x ^ n / ∏ j ∈ Finset.range n, ((1 : ℝ) + j + 1) =
      1 - Real.exp (-x) := by
  have h := lowerGamma_series (a := 1) one_pos hx
  rw [lowerGamma_one_eq, Real.rpow_one, div_one] at h
  exact h.symm

/-- the instance `a = 1`, `x = 1`: `e^(−1) · ∑ₙ 1/(n+1)! = 1 − e^(−1)`, i.e. `∑ₙ 1/(n+1)! = e − 1`. -/
example : Real.exp (-1) * ∑' n : ℕ, (1 : ℝ) ^ n / ∏ j ∈ Finset.range n, ((1 : ℝ) + j + 1) =
    1 - Real.exp (-1) := by
  have h := lowerGamma_series (a := 1) (x := 1) one_pos zero_le_one
  rw [lowerGamma_one_eq, Real.rpow_one, div_one, one_mul] at h
  exact h.symm

/-- `lowerGammaReg_series` at `a = 5/2`, `x = 3` -/
example : (∫ t in (0 : ℝ)..3, t ^ ((5 / 2 : ℝ) - 1) * Real.exp (-t)) / Real.Gamma (5 / 2) =
    (3 : ℝ) ^ (5 / 2 : ℝ) * Real.exp (-3) / Real.Gamma (5 / 2 + 1) *
      ∑' n : ℕ, (3 : ℝ) ^ n / ∏ j ∈ Finset.range n, ((5 / 2 : ℝ) + j + 1) :=
  lowerGammaReg_series (by norm_num) (by norm_num)

/-- `lower_add_upper` at `a = 1`, `x = 1` computes the upper integral: `∫₁^∞ e^(−t) dt = e^(−1)` -/
example : ∫ t in Set.Ioi (1 : ℝ), t ^ ((1 : ℝ) - 1) * Real.exp (-t) = Real.exp (-1) := by
  have h := lower_add_upper (a := 1) (x := 1) one_pos zero_le_one
  rw [lowerGamma_one_eq, Real.Gamma_one] at h
  linarith

/-- hence `Q(1,1) = e^(−1)` and the series value `1 − e^(−1)` is `P(1,1) = 1 − Q(1,1)` -/
example : upperGammaQ 1 1 = Real.exp (-1) := by
  have h := lowerGammaReg_eq_one_sub_upperGammaQ (a := 1) (x := 1) one_pos zero_le_one
  rw [lowerGamma_one_eq, Real.Gamma_one] at h
  linarith

example : (1 : ℝ) ^ (1 : ℝ) * Real.exp (-1) / Real.Gamma (1 + 1) *
    ∑' n : ℕ, (1 : ℝ) ^ n / ∏ j ∈ Finset.range n, ((1 : ℝ) + j + 1) = 1 - upperGammaQ 1 1 :=
  gammaSeries_eq_one_sub_upperGammaQ one_pos zero_le_one

end MV.Special
