import MV.Props.FactsHolds
/-! Source facts the C01 model relies on (checked against the facts regenerated from /repo on every run). -/
namespace MV.Facts

def expectedC01 : List (String × String) := [("stats.MannWhitneyExactLimit", "50"), ("stats.MannWhitneyTiesExactLimit", "25"), ("stats.LocationLess", "-1"), ("stats.LocationDiffers", "0"), ("stats.LocationGreater", "1")]

/-- the constants and literals the C01 model mirrors are still what the source says -/
theorem facts_C01 : holdsAll expectedC01 = true := by decide +kernel


/-- State that outlives a call, as extracted from the source on this run: the package-level
variables of the packages this property's code lives in, the functions (other than `init`) that
assign to them or call methods on them, and the fields of the property's struct types. The model is
a pure function of the arguments and of these fields; a new variable, writer or field is state the
model does not know of. The digest-valued `shape:` entry covers everything the call graph
(resolved by go/types) reaches from the functions declared in the property's anchor files: per
function, method (with receiver kind), package variable and constant, its numeric literals, its comparison operators, the
package variables it reads and its writes through parameters or the receiver (including in-place
`sort.*`/`copy`/`append`). The entries behind the digest are in `shape_expected.txt` and in a
comment of the generated file. -/
def stateC01 : List (String × String) := [("globals:stats", "ErrMismatchedSamples ErrSampleSize ErrSamplesEqual ErrZeroVariance MannWhitneyExactLimit MannWhitneyTiesExactLimit StdNormal _KDEBoundaryMethod_index _KDEKernel_index _LocationHypothesis_index inf nan quantileCIApproxThreshold"), ("globals:mathx", "nan smallFact"), ("globalwrites:stats", "MannWhitneyUTest:StdNormal.CDF"), ("globalwrites:mathx", ""), ("fields:stats.MannWhitneyUTestResult", "N1:int N2:int U:float64 AltHypothesis:LocationHypothesis P:float64"), ("fields:stats.UDist", "N1:int N2:int T:[]int"), ("fields:stats.ukey", "n1:int twoU:int"), ("shape:C01", "n=32 fnv64a=84deb6cc18c3dcd9")]

/-- the source has exactly the package-level variables, writers and struct fields the model accounts for -/
theorem state_C01 : holdsAll stateC01 = true := by
  repeat (refine holdsAll_cons rfl ?_)
  exact holdsAll_nil

end MV.Facts
