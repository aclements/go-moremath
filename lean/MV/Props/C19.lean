import Mathlib.Tactic
import MV.Props.C18Reach
/-!
# C19 — dominators: the deletion-based executable definition is "lies on every path"

The model decides dominance by deleting a node and running reachability again (`mkCtx`).  `Dom` is
the same in relational form (`dom_iff_Dom`): `v` and `d` are reachable and no path to `v` avoids
`d` (`Av`).  The order facts are proved for `Dom`, by cutting a path where it first or last meets
one of two nodes (`av_split`, `first_hit`, `last_hit`), and carried over to the executable `dom`;
the immediate dominator is a strict dominator with the most dominators (`Dom.idom_exists`).

The theorems are labelled by the clause of the property they stand for:
* D1: `dom`, computed by deletion, is "lies on every path from the root";
* D2: `dom` is a partial order on the reachable nodes with the root as least element;
* D3: the strict dominators of a node form a chain, so each reachable node other than the root has
  one immediate dominator, and `idomSpec` lists it (`-1` for the root and unreachable nodes);
* D4: `domChildren` inverts the `idom` list, children in increasing order;
* D5: `dfSpec` lists for `x` the reachable `y` not strictly dominated by `x` that have a reachable
  predecessor dominated by `x`.
-/
namespace MV.Graph

/-- `p` is the vertex list of a walk from `a` to `b` along edges of `g`:
it starts with `a`, ends with `b`, and consecutive elements are edges. -/
def IsWalk (g : G) (a b : Nat) (p : List Nat) : Prop :=
  p.head? = some a ∧ p.getLast? = some b ∧ List.IsChain (Edge g) p

lemma not_isWalk_nil (g : G) (a b : Nat) : ¬ IsWalk g a b [] := by
  simp [IsWalk]

lemma isWalk_singleton (g : G) (a b x : Nat) : IsWalk g a b [x] ↔ x = a ∧ x = b := by
  simp [IsWalk]

lemma isWalk_cons_cons (g : G) (a b x y : Nat) (r : List Nat) :
    IsWalk g a b (x :: y :: r) ↔ x = a ∧ Edge g x y ∧ IsWalk g y b (y :: r) := by
  simp only [IsWalk, List.head?_cons, Option.some.injEq, List.getLast?_cons_cons,
    List.isChain_cons_cons, true_and]
  tauto

lemma IsWalk.head_mem {g : G} {a b : Nat} {p : List Nat} (h : IsWalk g a b p) : a ∈ p :=
  List.mem_of_mem_head? (by rw [h.1]; rfl)

lemma IsWalk.last_mem {g : G} {a b : Nat} {p : List Nat} (h : IsWalk g a b p) : b ∈ p :=
  List.mem_of_getLast? h.2.1

lemma IsWalk.cons {g : G} {a c b : Nat} {p : List Nat} (he : Edge g a c) (h : IsWalk g c b p) :
    IsWalk g a b (a :: p) := by
  cases p with
  | nil => exact absurd h (not_isWalk_nil g _ _)
  | cons z r =>
    obtain rfl : z = c := by simpa using h.1
    exact (isWalk_cons_cons g a b a z r).2 ⟨rfl, he, h⟩

/-- edges into nodes other than `d` -/
def AvE (g : G) (d a b : Nat) : Prop := Edge g a b ∧ b ≠ d

/-- paths all of whose nodes except possibly the first avoid `d` -/
def Av (g : G) (d : Nat) : Nat → Nat → Prop := Relation.ReflTransGen (AvE g d)

lemma Av.path {g : G} {d a b : Nat} (h : Av g d a b) : Path g a b :=
  Relation.ReflTransGen.mono (fun _ _ h => h.1) _ _ h

lemma av_self (g : G) (d root : Nat) (h : Av g d root d) : root = d := by
  rcases Relation.ReflTransGen.cases_tail h with h' | ⟨c, _, hc⟩
  · exact h'.symm
  · exact absurd rfl hc.2

/-- a chain of edges into nodes satisfying `Q` gives a walk whose nodes after the first satisfy `Q` -/
lemma walk_of_rtg (g : G) {Q : Nat → Prop} {x y : Nat}
    (h : Relation.ReflTransGen (fun a b => Edge g a b ∧ Q b) x y) :
    ∃ p, IsWalk g x y p ∧ ∀ z ∈ p, z = x ∨ Q z := by
  obtain ⟨l, hc, hl⟩ := List.exists_isChain_cons_of_relationReflTransGen h
  exact ⟨x :: l, ⟨rfl, hl ▸ List.getLast?_eq_some_getLast _, hc.imp fun _ _ h => h.1⟩,
    hc.induction (fun z => z = x ∨ Q z) _ (fun _ _ h _ => Or.inr h.2) fun _ => Or.inl rfl⟩

lemma rtg_of_walk (g : G) {Q : Nat → Prop} (p : List Nat) (x y : Nat) (h : IsWalk g x y p)
    (hQ : ∀ z ∈ p, Q z) : Relation.ReflTransGen (fun a b => Edge g a b ∧ Q b) x y := by
  obtain ⟨hh, hl, hc⟩ := h
  have hne : p ≠ [] := by rintro rfl; simp at hh
  rw [List.head?_eq_some_head hne, Option.some.injEq] at hh
  rw [List.getLast?_eq_some_getLast hne, Option.some.injEq] at hl
  rw [← hh, ← hl]
  exact List.relationReflTransGen_of_exists_isChain p
    (hc.imp_of_mem_tail_imp fun a b _ hb he => ⟨he, hQ b (List.mem_of_mem_tail hb)⟩) hne

lemma walk_of_av (g : G) (d x y : Nat) (h : Av g d x y) (hx : x ≠ d) :
    ∃ p, IsWalk g x y p ∧ d ∉ p := by
  -- `AvE g d a b` is by definition `Edge g a b ∧ b ≠ d`
  obtain ⟨p, hp, hQ⟩ := walk_of_rtg (Q := (· ≠ d)) g h
  exact ⟨p, hp, fun hd => (hQ d hd).elim (fun e => hx e.symm) (fun e => e rfl)⟩

lemma av_of_walk (g : G) (d : Nat) (p : List Nat) (x y : Nat) (h : IsWalk g x y p) (hd : d ∉ p) :
    Av g d x y :=
  rtg_of_walk (Q := (· ≠ d)) g p x y h fun _ hz e => hd (e ▸ hz)

lemma path_of_walk (g : G) (p : List Nat) (x y : Nat) (h : IsWalk g x y p) : Path g x y :=
  Relation.ReflTransGen.mono (fun _ _ h => h.1) _ _
    (rtg_of_walk (Q := fun _ => True) g p x y h fun _ _ => trivial)

/-- `Path` is exactly "there is a walk" (sanity link between the two notions). -/
theorem path_iff_walk (g : G) (x y : Nat) : Path g x y ↔ ∃ p, IsWalk g x y p :=
  ⟨fun h => (walk_of_rtg (Q := fun _ => True) g
      (Relation.ReflTransGen.mono (fun _ _ h => ⟨h, trivial⟩) _ _ h)).imp fun _ h => h.1,
    fun ⟨p, hp⟩ => path_of_walk g p x y hp⟩

lemma isWalk_snoc (g : G) {w : List Nat} {a b : Nat} (h : IsWalk g a b w) (hab : a ≠ b) :
    ∃ w' p, w = w' ++ [b] ∧ IsWalk g a p w' ∧ Edge g p b := by
  obtain ⟨hh, hl, hc⟩ := h
  obtain ⟨w', rfl⟩ := List.getLast?_eq_some_iff.1 hl
  obtain ⟨hc1, -, hc2⟩ := List.isChain_append.1 hc
  cases w' with
  | nil => exact absurd (by simpa using hh) hab.symm
  | cons x r =>
    exact ⟨x :: r, _, rfl, ⟨by simpa using hh, List.getLast?_eq_some_getLast (by simp), hc1⟩,
      hc2 _ (List.getLast?_eq_some_getLast (by simp)) b rfl⟩

lemma walk_mem_path (g : G) (root : Nat) {w : List Nat} {a b : Nat} (ha : Path g root a)
    (h : IsWalk g a b w) : ∀ v ∈ w, Path g root v :=
  List.IsChain.induction (Path g root) w h.2.2 (fun _ _ he hp => hp.tail he) fun hne => by
    have := h.1
    rw [List.head?_eq_some_head hne, Option.some.injEq] at this
    rwa [this]

lemma walk_suffix (g : G) {w : List Nat} {y b a : Nat} (h : IsWalk g y b w) (ha : a ∈ w) :
    ∃ q, IsWalk g a b q ∧ q <:+ w := by
  obtain ⟨l1, l2, rfl⟩ := List.append_of_mem ha
  refine ⟨a :: l2, ⟨rfl, ?_, h.2.2.suffix (List.suffix_append _ _)⟩, List.suffix_append _ _⟩
  rw [← h.2.1, List.getLast?_append_of_ne_nil _ (by simp)]

/-- cutting out the loops: whenever the first node recurs, continue from its last occurrence -/
lemma walk_shorten (g : G) : ∀ (w : List Nat) (a b : Nat), IsWalk g a b w →
    ∃ q, IsWalk g a b q ∧ q.Nodup ∧ q ⊆ w := by
  intro w
  induction w with
  | nil => intro a b h; exact absurd h (not_isWalk_nil g _ _)
  | cons z r ih =>
    intro a b h
    cases r with
    | nil => exact ⟨[z], h, by simp, List.Subset.refl _⟩
    | cons y r =>
      obtain ⟨rfl, he, hw⟩ := (isWalk_cons_cons g a b z y r).1 h
      obtain ⟨q', hq', hn', hs'⟩ := ih y b hw
      by_cases hz : z ∈ q'
      · obtain ⟨q, hq, hsuf⟩ := walk_suffix g hq' hz
        exact ⟨q, hq, hn'.sublist hsuf.sublist, fun v hv =>
          List.mem_cons_of_mem _ (hs' (hsuf.subset hv))⟩
      · exact ⟨z :: q', hq'.cons he, List.nodup_cons.2 ⟨hz, hn'⟩, List.cons_subset_cons _ hs'⟩

/-- every walk from `root` to `v` meets `d`, in relational form -/
lemma all_walks_iff (g : G) (root d v : Nat) :
    (∀ p : List Nat, IsWalk g root v p → d ∈ p) ↔ (d = v ∨ root = d ∨ ¬ Av g d root v) := by
  constructor
  · intro h
    by_contra hc
    simp only [not_or, not_not] at hc
    obtain ⟨p, hp, hd⟩ := walk_of_av g d root v hc.2.2 hc.2.1
    exact hd (h p hp)
  · rintro (rfl | rfl | h) p hp
    · exact hp.last_mem
    · exact hp.head_mem
    · by_contra hd
      exact h (av_of_walk g d p root v hp hd)

/-- `g` with node `d` removed: its out-list emptied and `d` filtered from all lists -/
def delG (g : G) (d : Nat) : G := g.mapIdx fun i l => if i == d then [] else l.filter (· != d)

lemma delG_size (g : G) (d : Nat) : (delG g d).size = g.size := by simp [delG]

lemma out_delG (g : G) (d a : Nat) :
    out (delG g d) a = if a = d then [] else (out g a).filter (· != d) := by
  unfold out delG
  simp only [Array.getD_eq_getD_getElem?, Array.getElem?_mapIdx]
  cases h : g[a]? with
  | none => simp
  | some l => simp

lemma edge_delG (g : G) (d a b : Nat) : Edge (delG g d) a b ↔ Edge g a b ∧ a ≠ d ∧ b ≠ d := by
  unfold Edge
  rw [delG_size, out_delG]
  by_cases h : a = d
  · simp [h]
  · simp [h, List.mem_filter]; tauto

lemma wf_delG (g : G) (hwf : WF g) (d : Nat) : WF (delG g d) := by
  intro u hu v hv
  rw [delG_size] at hu ⊢
  have : Edge (delG g d) u v := ⟨by rw [delG_size]; exact hu, hv⟩
  rw [edge_delG] at this
  exact hwf u hu v this.1.2

lemma path_delG_iff (g : G) (d root v : Nat) (hrd : root ≠ d) :
    Path (delG g d) root v ↔ Av g d root v := by
  constructor
  · intro h
    exact Relation.ReflTransGen.mono
      (fun a b hab => ⟨((edge_delG g d a b).1 hab).1, ((edge_delG g d a b).1 hab).2.2⟩) _ _ h
  · intro h
    have : v ≠ d ∧ Path (delG g d) root v := by
      induction h with
      | refl => exact ⟨hrd, Relation.ReflTransGen.refl⟩
      | tail _ hbc ih =>
        exact ⟨hbc.2, Relation.ReflTransGen.tail ih.2 ((edge_delG g d _ _).2 ⟨hbc.1, ih.1, hbc.2⟩)⟩
    exact this.2

lemma reachAvoid_getD (g : G) (hwf : WF g) (root d v : Nat) (hr : root < g.size) :
    (reachAvoid g root d).getD v false = true ↔ (root ≠ d ∧ Av g d root v) := by
  unfold reachAvoid
  by_cases h : root = d
  · subst h
    rw [beq_self_eq_true, if_pos rfl, getD_replicate]
    exact iff_of_false Bool.false_ne_true fun h => h.1 rfl
  · have hb : (root == d) = false := by simpa using h
    rw [hb]
    simp only [Bool.false_eq_true, if_false]
    have := reachB_iff_path (delG g d) (wf_delG g hwf d) root v (by rw [delG_size]; exact hr)
    unfold reachB delG at this
    rw [this]
    have h2 := path_delG_iff g d root v h
    unfold delG at h2
    rw [h2]
    simp [h]

lemma mkCtx_rs (g : G) (root v : Nat) : (mkCtx g root).rs.getD v false = reachB g root v := rfl

lemma mkCtx_av (g : G) (root d : Nat) (hd : d < g.size) :
    (mkCtx g root).av.getD d #[] = reachAvoid g root d := by
  unfold mkCtx
  simp [Array.getD_eq_getD_getElem?, hd]

/-- dominance in relational form -/
def Dom (g : G) (root d v : Nat) : Prop :=
  Path g root v ∧ Path g root d ∧ (d = v ∨ root = d ∨ ¬ Av g d root v)

lemma reachB_lt (g : G) (u v : Nat) (h : reachB g u v = true) : v < g.size := by
  by_contra hge
  have hsz : (reachSet g u).size = g.size := by
    rw [reachSet_eq, iter_expand_size, start_size]
  rw [reachB, getD_of_size_le _ _ _ (hsz ▸ not_lt.1 hge)] at h
  exact Bool.false_ne_true h

lemma path_lt (g : G) (hwf : WF g) (root v : Nat) (hr : root < g.size) (h : Path g root v) :
    v < g.size :=
  reachB_lt g root v ((reachB_iff_path g hwf root v hr).2 h)

lemma dom_iff_Dom (g : G) (hwf : WF g) (root d v : Nat) (hr : root < g.size) :
    (mkCtx g root).dom d v = true ↔ Dom g root d v := by
  unfold DomCtx.dom Dom
  rw [mkCtx_rs, mkCtx_rs, Bool.and_eq_true, Bool.and_eq_true, reachB_iff_path g hwf root v hr,
    and_assoc]
  refine and_congr_right fun _ => ?_
  by_cases hd : reachB g root d = true
  · rw [mkCtx_av g root d (reachB_lt g root d hd), ← reachB_iff_path g hwf root d hr]
    -- what is left is `(d == v || !av) = true ↔ d = v ∨ root = d ∨ ¬ Av g d root v`, where the entry
    -- `av` of the deletion table is true iff `root ≠ d ∧ Av g d root v` (`reachAvoid_getD`)
    simp only [hd, true_and, Bool.or_eq_true, beq_iff_eq, Bool.not_eq_true', ← Bool.not_eq_true,
      reachAvoid_getD g hwf root d v hr, not_and_or, not_not]
  · have : ¬ Path g root d := fun hp => hd ((reachB_iff_path g hwf root d hr).2 hp)
    simp only [hd, this, Bool.false_eq_true, false_and]

/-- **D1.** The deletion-based executable definition of dominance coincides with
"`d` lies on every path from the root to `v`": `(mkCtx g root).dom d v` is true
exactly when `v` and `d` are reachable from `root` and every walk (vertex list of
consecutive edges) from `root` to `v` contains `d`.  (The bounds on `d` and `v` are not needed:
reachable nodes are in range.) -/
theorem dom_iff_all_paths (g : G) (hwf : WF g) (root d v : Nat) (hr : root < g.size)
    (hd : d < g.size) (hv : v < g.size) :
    (mkCtx g root).dom d v = true ↔
      (Path g root v ∧ Path g root d ∧ ∀ p : List Nat, IsWalk g root v p → d ∈ p) := by
  rw [dom_iff_Dom g hwf root d v hr, all_walks_iff]
  rfl

example : WF exG := by decide
example : (mkCtx exG 0).dom 2 3 = true ↔
    (Path exG 0 3 ∧ Path exG 0 2 ∧ ∀ p : List Nat, IsWalk exG 0 3 p → 2 ∈ p) :=
  dom_iff_all_paths exG (by decide) 0 2 3 (by decide) (by decide) (by decide)
example : (mkCtx exG 0).dom 2 3 = true := by decide +kernel

/-- paths whose nodes except possibly the first avoid both `a` and `b` -/
def Av2 (g : G) (a b : Nat) : Nat → Nat → Prop :=
  Relation.ReflTransGen (fun u w => Edge g u w ∧ w ≠ a ∧ w ≠ b)

lemma Av2.left {g : G} {a b x y : Nat} (h : Av2 g a b x y) : Av g a x y :=
  Relation.ReflTransGen.mono (fun _ _ h => ⟨h.1, h.2.1⟩) _ _ h
lemma Av2.right {g : G} {a b x y : Nat} (h : Av2 g a b x y) : Av g b x y :=
  Relation.ReflTransGen.mono (fun _ _ h => ⟨h.1, h.2.2⟩) _ _ h

lemma av_split (g : G) (a b x y : Nat) (h : Av g a x y) : Av2 g a b x y ∨ Av g a x b := by
  induction h with
  | refl => exact Or.inl Relation.ReflTransGen.refl
  | @tail y' z _ hyz ih =>
    rcases ih with ih | ih
    · by_cases hz : z = b
      · subst hz; exact Or.inr (Relation.ReflTransGen.tail ih.left hyz)
      · exact Or.inl (Relation.ReflTransGen.tail ih ⟨hyz.1, hyz.2, hz⟩)
    · exact Or.inr ih

lemma first_hit (g : G) (a b x y : Nat) (hab : a ≠ b) (h : Path g x y) :
    Av2 g a b x y ∨ Av g b x a ∨ Av g a x b := by
  induction h with
  | refl => exact Or.inl Relation.ReflTransGen.refl
  | @tail y' z _ hyz ih =>
    rcases ih with ih | ih | ih
    · by_cases hza : z = a
      · subst hza; exact Or.inr (Or.inl (Relation.ReflTransGen.tail ih.right ⟨hyz, hab⟩))
      · by_cases hzb : z = b
        · subst hzb; exact Or.inr (Or.inr (Relation.ReflTransGen.tail ih.left ⟨hyz, hab.symm⟩))
        · exact Or.inl (Relation.ReflTransGen.tail ih ⟨hyz, hza, hzb⟩)
    · exact Or.inr (Or.inl ih)
    · exact Or.inr (Or.inr ih)

lemma last_hit (g : G) (a b x v : Nat) (h : Path g x v) :
    Av2 g a b x v ∨ Av2 g a b a v ∨ Av2 g a b b v := by
  induction h using Relation.ReflTransGen.head_induction_on with
  | refl => exact Or.inl Relation.ReflTransGen.refl
  | @head x y hxy _ ih =>
    rcases ih with ih | ih | ih
    · by_cases hya : y = a
      · subst hya; exact Or.inr (Or.inl ih)
      · by_cases hyb : y = b
        · subst hyb; exact Or.inr (Or.inr ih)
        · exact Or.inl (Relation.ReflTransGen.head ⟨hxy, hya, hyb⟩ ih)
    · exact Or.inr (Or.inl ih)
    · exact Or.inr (Or.inr ih)

lemma Dom.refl {g : G} {root v : Nat} (h : Path g root v) : Dom g root v v := ⟨h, h, Or.inl rfl⟩

lemma Dom.of_root {g : G} {root v : Nat} (h : Path g root v) : Dom g root root v :=
  ⟨h, Relation.ReflTransGen.refl, Or.inr (Or.inl rfl)⟩

lemma Dom.eq_root {g : G} {root d : Nat} (h : Dom g root d root) : d = root := by
  rcases h.2.2 with h | h | h
  · exact h
  · exact h.symm
  · exact absurd Relation.ReflTransGen.refl h

/-- the form in which dominance is used: no path to `v` avoids a dominator other than `v` and the root -/
lemma Dom.not_av {g : G} {root d v : Nat} (h : Dom g root d v) (hdv : d ≠ v) (hrd : root ≠ d) :
    ¬ Av g d root v := by
  rcases h.2.2 with h | h | h
  exacts [absurd h hdv, absurd h hrd, h]

lemma Dom.of_not_av {g : G} {root d v : Nat} (hv : Path g root v) (hd : Path g root d)
    (h : d ≠ v → root ≠ d → ¬ Av g d root v) : Dom g root d v := by
  refine ⟨hv, hd, ?_⟩
  by_contra hc
  simp only [not_or, not_not] at hc
  exact h hc.1 hc.2.1 hc.2.2

lemma Dom.trans {g : G} {root a b c : Nat} (hab : Dom g root a b) (hbc : Dom g root b c) :
    Dom g root a c := by
  refine Dom.of_not_av hbc.1 hab.2.1 fun hac hra hav => ?_
  by_cases hab' : a = b
  · subst hab'; exact hbc.not_av hac hra hav
  have h := hab.not_av hab' hra
  rcases av_split g a b root c hav with h2 | h2
  · by_cases hbc' : b = c
    · subst hbc'; exact h hav
    by_cases hrb : root = b
    · subst hrb; exact h Relation.ReflTransGen.refl
    exact hbc.not_av hbc' hrb h2.right
  · exact h h2

lemma Dom.antisymm {g : G} {root a b : Nat} (hab : Dom g root a b) (hba : Dom g root b a) :
    a = b := by
  by_contra hne
  by_cases hra : root = a
  · subst hra; exact hne hba.eq_root.symm
  by_cases hrb : root = b
  · subst hrb; exact hne hab.eq_root
  rcases first_hit g a b root a hne hab.2.1 with h | h | h
  · exact hra (av_self g a root h.left)
  · exact hba.not_av (Ne.symm hne) hrb h
  · exact hab.not_av hne hra h

lemma Dom.chain {g : G} {root a b v : Nat} (hav : Dom g root a v) (hbv : Dom g root b v)
    (ha : a ≠ v) (hb : b ≠ v) : Dom g root a b ∨ Dom g root b a := by
  by_cases hab : a = b
  · subst hab; exact Or.inl (Dom.refl hav.2.1)
  -- if the last of `a`, `b` on some path to `v` is `a`, then `b` dominates `a`
  have key : ∀ {a b : Nat}, Dom g root a v → Dom g root b v → b ≠ v → Av2 g a b a v →
      Dom g root b a := fun hav hbv hb h =>
    Dom.of_not_av hav.2.1 hbv.2.1 fun _ hrb hav' => hbv.not_av hb hrb (hav'.trans h.right)
  rcases last_hit g a b root v hav.1 with h | h | h
  · have hra : root = a := by_contra fun hra => hav.not_av ha hra h.left
    have hrb : root = b := by_contra fun hrb => hbv.not_av hb hrb h.right
    exact absurd (hra.symm.trans hrb) hab
  · exact Or.inr (key hav hbv hb h)
  · exact Or.inl (key hbv hav ha (Relation.ReflTransGen.mono (fun _ _ h => ⟨h.1, h.2.2, h.2.1⟩) _ _ h))

lemma Dom.pred {g : G} {root d b p : Nat} (h : Dom g root d b) (hdb : d ≠ b)
    (hp : Path g root p) (he : Edge g p b) : Dom g root d p :=
  Dom.of_not_av hp h.2.1 fun _ hrd hav =>
    h.not_av hdb hrd (Relation.ReflTransGen.tail hav ⟨he, fun e => hdb e.symm⟩)

lemma Dom.of_preds {g : G} {root a b : Nat} (hb : Path g root b) (hbr : b ≠ root)
    (h : ∀ p, Path g root p → Edge g p b → Dom g root a p) : Dom g root a b := by
  obtain ⟨p0, hp0, he0⟩ : ∃ p, Path g root p ∧ Edge g p b := by
    rcases Relation.ReflTransGen.cases_tail hb with h' | ⟨c, hc, hcb⟩
    · exact absurd h' hbr
    · exact ⟨c, hc, hcb⟩
  refine Dom.of_not_av hb (h p0 hp0 he0).2.1 fun _ hra hav => ?_
  rcases Relation.ReflTransGen.cases_tail hav with h' | ⟨c, hc, hcb⟩
  · exact hbr h'
  · by_cases hac : a = c
    · subst hac; exact hra (av_self g a root hc)
    · exact (h c (Av.path hc) hcb.1).not_av hac hra hc

lemma sdom_iff (c : DomCtx) (d v : Nat) : c.sdom d v = true ↔ d ≠ v ∧ c.dom d v = true := by
  simp [DomCtx.sdom]

lemma dom_lt (g : G) (root d v : Nat) (h : (mkCtx g root).dom d v = true) :
    d < g.size ∧ v < g.size := by
  unfold DomCtx.dom at h
  rw [mkCtx_rs, mkCtx_rs, Bool.and_eq_true, Bool.and_eq_true] at h
  exact ⟨reachB_lt g root d h.1.2, reachB_lt g root v h.1.1⟩

/-- **D2 (reflexive).** Every node reachable from the root dominates itself. -/
theorem dom_refl (g : G) (hwf : WF g) (root v : Nat) (hr : root < g.size) (h : Path g root v) :
    (mkCtx g root).dom v v = true :=
  (dom_iff_Dom g hwf root v v hr).2 (Dom.refl h)

/-- **D2 (root).** The root dominates every node reachable from it. -/
theorem dom_root (g : G) (hwf : WF g) (root v : Nat) (hr : root < g.size) (h : Path g root v) :
    (mkCtx g root).dom root v = true :=
  (dom_iff_Dom g hwf root root v hr).2 (Dom.of_root h)

/-- **D2 (transitive).** If `a` dominates `b` and `b` dominates `c` then `a` dominates `c`. -/
theorem dom_trans (g : G) (hwf : WF g) (root a b c : Nat) (hr : root < g.size)
    (hab : (mkCtx g root).dom a b = true) (hbc : (mkCtx g root).dom b c = true) :
    (mkCtx g root).dom a c = true := by
  rw [dom_iff_Dom g hwf root _ _ hr] at *
  exact hab.trans hbc

/-- **D2 (antisymmetric).** If `a` dominates `b` and `b` dominates `a` then `a = b`. -/
theorem dom_antisymm (g : G) (hwf : WF g) (root a b : Nat) (hr : root < g.size)
    (hab : (mkCtx g root).dom a b = true) (hba : (mkCtx g root).dom b a = true) : a = b := by
  rw [dom_iff_Dom g hwf root _ _ hr] at *
  exact hab.antisymm hba

/-- **D2 (only reachable nodes).** Dominance only relates nodes reachable from the root. -/
theorem dom_reachable (g : G) (hwf : WF g) (root d v : Nat) (hr : root < g.size)
    (h : (mkCtx g root).dom d v = true) : Path g root d ∧ Path g root v := by
  rw [dom_iff_Dom g hwf root _ _ hr] at h
  exact ⟨h.2.1, h.1⟩

example : (mkCtx exG 0).dom 0 3 = true :=
  dom_root exG (by decide) 0 3 (by decide)
    ((reachB_iff_path exG (by decide) 0 3 (by decide)).1 (by decide +kernel))

/-- **D3 (chain lemma).** Two strict dominators of the same node are comparable:
if `a` and `b` both strictly dominate `v` then `a` dominates `b` or `b` dominates `a`. -/
theorem dom_chain (g : G) (hwf : WF g) (root a b v : Nat) (hr : root < g.size)
    (ha : (mkCtx g root).sdom a v = true) (hb : (mkCtx g root).sdom b v = true) :
    (mkCtx g root).dom a b = true ∨ (mkCtx g root).dom b a = true := by
  rw [sdom_iff] at ha hb
  simp only [dom_iff_Dom g hwf root _ _ hr] at *
  exact Dom.chain ha.2 hb.2 ha.1 hb.1

/-- `d` is an immediate dominator of `v`: a strict dominator of `v` that every
other strict dominator of `v` dominates. -/
def IsIdom (g : G) (root d v : Nat) : Prop :=
  (mkCtx g root).sdom d v = true ∧
    ∀ e, (mkCtx g root).sdom e v = true → e = d ∨ (mkCtx g root).dom e d = true

lemma isIdom_iff (g : G) (hwf : WF g) (root d v : Nat) (hr : root < g.size) :
    IsIdom g root d v ↔
      d ≠ v ∧ Dom g root d v ∧ ∀ e, e ≠ v → Dom g root e v → Dom g root e d := by
  unfold IsIdom
  simp only [sdom_iff, dom_iff_Dom g hwf root _ _ hr]
  constructor
  · rintro ⟨⟨h1, h2⟩, h3⟩
    refine ⟨h1, h2, fun e he hev => ?_⟩
    rcases h3 e ⟨he, hev⟩ with h | h
    · subst h; exact Dom.refl h2.2.1
    · exact h
  · rintro ⟨h1, h2, h3⟩
    exact ⟨⟨h1, h2⟩, fun e he => Or.inr (h3 e he.1 he.2)⟩

/-- the number of dominators of `v`: it drops along strict dominance (`domCount_lt`), which
bounds the length of dominator chains -/
noncomputable def domCount (g : G) (root v : Nat) : Nat := by
  classical exact ((Finset.range g.size).filter fun e => Dom g root e v).card

lemma domCount_le (g : G) (root v : Nat) : domCount g root v ≤ g.size := by
  classical exact count_le

lemma domCount_pos (g : G) (hwf : WF g) (root v : Nat) (hr : root < g.size) (hp : Path g root v) :
    0 < domCount g root v := by
  classical
  refine Finset.card_pos.2 ⟨v, ?_⟩
  simp only [Finset.mem_filter, Finset.mem_range]
  exact ⟨path_lt g hwf root v hr hp, Dom.refl hp⟩

/-- a strict dominator has fewer dominators -/
lemma domCount_lt (g : G) (hwf : WF g) (root : Nat) (hr : root < g.size) {a b : Nat}
    (h : Dom g root a b) (hne : a ≠ b) : domCount g root a < domCount g root b := by
  classical
  exact count_lt (p := fun e => Dom g root e a) (q := fun e => Dom g root e b)
    (fun x hx => hx.trans h) (path_lt g hwf root b hr h.1) (Dom.refl h.1) fun hd => hne (h.antisymm hd)

/-- among the strict dominators of `v`, one with the most dominators is dominated by all -/
lemma Dom.idom_exists {g : G} {root v : Nat} (hwf : WF g) (hr : root < g.size) (hvr : v ≠ root)
    (hp : Path g root v) :
    ∃ d, d ≠ v ∧ Dom g root d v ∧ ∀ e, e ≠ v → Dom g root e v → Dom g root e d := by
  classical
  let S : Finset Nat := (Finset.range g.size).filter fun d => d ≠ v ∧ Dom g root d v
  have hne : S.Nonempty :=
    ⟨root, by simpa only [S, Finset.mem_filter, Finset.mem_range] using
      ⟨hr, fun e => hvr e.symm, Dom.of_root hp⟩⟩
  obtain ⟨d, hdS, hmax⟩ := Finset.exists_max_image S (domCount g root) hne
  obtain ⟨-, hdv, hd⟩ := Finset.mem_filter.1 hdS
  refine ⟨d, hdv, hd, fun e hev he => ?_⟩
  rcases Dom.chain he hd hev hdv with h | h
  · exact h
  · by_cases hed : e = d
    · rw [hed]; exact Dom.refl hd.2.1
    · have heS : e ∈ S := Finset.mem_filter.2 ⟨Finset.mem_range.2 (path_lt g hwf root e hr he.2.1), hev, he⟩
      exact absurd (hmax e heS) (not_le.2 (domCount_lt g hwf root hr h (fun e' => hed e'.symm)))

/-- **D3.** Every reachable node other than the root has exactly one immediate
dominator: a strict dominator `d` such that every strict dominator `e` of `v`
is `d` itself or dominates `d`. -/
theorem idom_exists_unique (g : G) (hwf : WF g) (root v : Nat) (hr : root < g.size)
    (hvr : v ≠ root) (hreach : Path g root v) : ∃! d, IsIdom g root d v := by
  obtain ⟨d, hd⟩ := Dom.idom_exists hwf hr hvr hreach
  refine ⟨d, (isIdom_iff g hwf root d v hr).2 hd, fun d' hd' => ?_⟩
  have hd' := (isIdom_iff g hwf root d' v hr).1 hd'
  exact (hd.2.2 d' hd'.1 hd'.2.1).antisymm (hd'.2.2 d hd.1 hd.2.1)

/-- the strict dominators of `v`, as `idomSpec` lists them -/
def sdoms (g : G) (root v : Nat) : List Nat :=
  (List.range g.size).filter fun d => (mkCtx g root).sdom d v

lemma mem_sdoms (g : G) (root v e : Nat) :
    e ∈ sdoms g root v ↔ (mkCtx g root).sdom e v = true := by
  simp only [sdoms, List.mem_filter, List.mem_range, and_iff_right_iff_imp]
  exact fun he => (dom_lt g root e v ((sdom_iff _ e v).1 he).2).1

/-- the entry of `idomSpec` at `v` -/
def idomEntry (g : G) (root v : Nat) : Int :=
  if v == root || !reachB g root v then -1
  else
    match (sdoms g root v).find?
      (fun d => (sdoms g root v).all fun e => e == d || (mkCtx g root).dom e d) with
    | some d => (d : Int)
    | none => -2

lemma idomSpec_eq (g : G) (root : Nat) :
    idomSpec g root = (List.range g.size).map (idomEntry g root) := rfl

lemma idomEntry_unreach (g : G) (hwf : WF g) (root v : Nat) (hr : root < g.size)
    (h : v = root ∨ ¬ Path g root v) : idomEntry g root v = -1 := by
  rw [← reachB_iff_path g hwf root v hr] at h
  rw [idomEntry, if_pos (by simpa using h)]

lemma idomEntry_reach (g : G) (hwf : WF g) (root v : Nat) (hr : root < g.size)
    (hvr : v ≠ root) (hreach : Path g root v) :
    ∃ d, IsIdom g root d v ∧ idomEntry g root v = (d : Int) := by
  obtain ⟨d0, hd0, -⟩ := idom_exists_unique g hwf root v hr hvr hreach
  have hall : ∀ d, ((sdoms g root v).all fun e => e == d || (mkCtx g root).dom e d) = true ↔
      ∀ e, (mkCtx g root).sdom e v = true → e = d ∨ (mkCtx g root).dom e d = true := fun d => by
    simp only [List.all_eq_true, mem_sdoms, Bool.or_eq_true, beq_iff_eq]
  have hrb : reachB g root v = true := (reachB_iff_path g hwf root v hr).2 hreach
  rw [idomEntry, if_neg (by rw [hrb]; simpa using hvr)]
  cases hf : (sdoms g root v).find?
      (fun d => (sdoms g root v).all fun e => e == d || (mkCtx g root).dom e d) with
  | none =>
    exact absurd ((hall d0).2 hd0.2)
      (List.find?_eq_none.1 hf d0 ((mem_sdoms g root v d0).2 hd0.1))
  | some d =>
    have hd := List.find?_some hf
    exact ⟨d, ⟨(mem_sdoms g root v d).1 (List.mem_of_find?_eq_some hf), (hall d).1 hd⟩, rfl⟩

lemma idomSpec_getD (g : G) (root v : Nat) (hv : v < g.size) :
    (idomSpec g root).getD v (-1) = idomEntry g root v := by
  rw [idomSpec_eq]
  simp [List.getD_eq_getElem?_getD, hv]

/-- **D3.** `idomSpec g root` has one entry per node. -/
theorem idomSpec_length (g : G) (root : Nat) : (idomSpec g root).length = g.size := by
  simp [idomSpec_eq]

/-- **D3.** The "impossible" marker `-2` never occurs in `idomSpec g root`. -/
theorem idomSpec_ne_neg2 (g : G) (hwf : WF g) (root : Nat) (hr : root < g.size) :
    (-2 : Int) ∉ idomSpec g root := by
  rw [idomSpec_eq, List.mem_map]
  rintro ⟨v, _, hv⟩
  by_cases h : v = root ∨ ¬ Path g root v
  · rw [idomEntry_unreach g hwf root v hr h] at hv; omega
  · simp only [not_or, not_not] at h
    obtain ⟨d, _, hd⟩ := idomEntry_reach g hwf root v hr h.1 h.2
    rw [hd] at hv; omega

/-- **D3.** The entry of `idomSpec g root` at `v` is `-1` for the root and for
unreachable nodes; for every other node it is the unique immediate dominator `d`
(a strict dominator of `v` dominated by every other strict dominator of `v`), as an `Int`. -/
theorem idomSpec_spec (g : G) (hwf : WF g) (root v : Nat) (hr : root < g.size) (hv : v < g.size) :
    ((v = root ∨ ¬ Path g root v) → (idomSpec g root).getD v (-1) = -1) ∧
    (v ≠ root → Path g root v →
      ∃ d : Nat, (idomSpec g root).getD v (-1) = (d : Int) ∧ IsIdom g root d v ∧
        ∀ d', IsIdom g root d' v → d' = d) := by
  rw [idomSpec_getD g root v hv]
  refine ⟨idomEntry_unreach g hwf root v hr, ?_⟩
  intro hvr hreach
  obtain ⟨d, hd, he⟩ := idomEntry_reach g hwf root v hr hvr hreach
  refine ⟨d, he, hd, ?_⟩
  intro d' hd'
  exact (idom_exists_unique g hwf root v hr hvr hreach).unique hd' hd

/-- **D3.** The entry of `idomSpec g root` at `v` is `-1` exactly for the root and
for nodes not reachable from the root. -/
theorem idomSpec_neg1_iff (g : G) (hwf : WF g) (root v : Nat) (hr : root < g.size)
    (hv : v < g.size) :
    (idomSpec g root).getD v (-1) = -1 ↔ (v = root ∨ ¬ Path g root v) := by
  obtain ⟨h1, h2⟩ := idomSpec_spec g hwf root v hr hv
  refine ⟨?_, h1⟩
  intro h
  by_contra hc
  simp only [not_or, not_not] at hc
  obtain ⟨d, hd, -⟩ := h2 hc.1 hc.2
  rw [hd] at h; omega

example : idomSpec exG 0 = [-1, 0, 1, 2, -1] := by decide +kernel
example := idomSpec_spec exG (by decide) 0 3 (by decide) (by decide)
example := idom_exists_unique exG (by decide) 0 3 (by decide) (by decide)
  ((reachB_iff_path exG (by decide) 0 3 (by decide)).1 (by decide +kernel))

/-- **D4.** `domChildren idom` has one list per node. -/
theorem domChildren_length (idom : List Int) : (domChildren idom).length = idom.length := by
  unfold domChildren
  rw [List.length_map, List.length_range]

lemma domChildren_getD (idom : List Int) (p : Nat) (hp : p < idom.length) :
    (domChildren idom).getD p [] =
      (List.range idom.length).filter fun (c : Nat) => idom.getD c (-1) == (p : Int) := by
  unfold domChildren
  rw [List.getD_eq_getElem?_getD, List.getElem?_map, List.getElem?_range hp]
  rfl

/-- **D4.** `c` is listed as a child of `p` in `domChildren idom` exactly when `c` is a
node whose `idom` entry is `p`. -/
theorem domChildren_spec (idom : List Int) (p c : Nat) (hp : p < idom.length) :
    c ∈ (domChildren idom).getD p [] ↔ c < idom.length ∧ idom.getD c (-1) = (p : Int) := by
  rw [domChildren_getD idom p hp]
  simp [List.mem_filter]

/-- **D4.** Every children list of `domChildren idom` is strictly increasing. -/
theorem domChildren_sorted (idom : List Int) (p : Nat) :
    ((domChildren idom).getD p []).Pairwise (· < ·) := by
  by_cases hp : p < idom.length
  · rw [domChildren_getD idom p hp]
    exact List.Pairwise.filter _ List.pairwise_lt_range
  · rw [List.getD_eq_getElem?_getD,
      List.getElem?_eq_none (by rw [domChildren_length]; exact not_lt.1 hp)]
    exact List.Pairwise.nil

example : domChildren (idomSpec exG 0) = [[1], [2], [3], [], []] := by decide +kernel
example : 3 ∈ (domChildren [-1, 0, 1, 2, -1]).getD 2 [] :=
  (domChildren_spec [-1, 0, 1, 2, -1] 2 3 (by decide)).2 ⟨by decide, by decide⟩

/-- **D5.** `y` is in the dominance frontier list of `x` in `dfSpec g root` exactly when
`x` and `y` are reachable from the root, some reachable predecessor `p` of `y`
(edge `p → y`) is dominated by `x`, and `x` does not strictly dominate `y`. -/
theorem dfSpec_spec (g : G) (hwf : WF g) (root x y : Nat) (hr : root < g.size) (hx : x < g.size) :
    y ∈ (dfSpec g root).getD x [] ↔
      (Path g root x ∧ Path g root y ∧
        (∃ p, Path g root p ∧ Edge g p y ∧ (mkCtx g root).dom x p = true) ∧
        ¬ (mkCtx g root).sdom x y = true) := by
  unfold dfSpec
  have hn : (mkCtx g root).n = g.size := rfl
  simp only [hn, mkCtx_rs]
  simp only [List.getD_eq_getElem?_getD, List.getElem?_map, List.getElem?_range hx, Option.map_some,
    Option.getD_some]
  by_cases hrx : reachB g root x = true
  · have hpx := (reachB_iff_path g hwf root x hr).1 hrx
    simp only [hrx, Bool.not_true, Bool.false_eq_true, if_false, List.mem_filter, List.mem_range,
      Bool.and_eq_true, List.any_eq_true, List.contains_iff_mem, Bool.not_eq_true']
    constructor
    · rintro ⟨hy, ⟨hry, p, hp, ⟨hrp, hyp⟩, hd⟩, hs⟩
      refine ⟨hpx, (reachB_iff_path g hwf root y hr).1 hry,
        ⟨p, (reachB_iff_path g hwf root p hr).1 hrp, ⟨hp, hyp⟩, hd⟩, ?_⟩
      rw [hs]; simp
    · rintro ⟨_, hpy, ⟨p, hpp, he, hd⟩, hs⟩
      have hry := (reachB_iff_path g hwf root y hr).2 hpy
      refine ⟨reachB_lt g root y hry, ⟨hry, p, he.1, ⟨(reachB_iff_path g hwf root p hr).2 hpp, he.2⟩, hd⟩, ?_⟩
      simpa using hs
  · -- the list of an unreachable `x` is empty, and the right side asks for a path to `x`
    have hpx : ¬ Path g root x := fun h => hrx ((reachB_iff_path g hwf root x hr).2 h)
    rw [Bool.not_eq_true] at hrx
    rw [hrx, Bool.not_false, if_pos rfl]
    exact iff_of_false List.not_mem_nil fun h => hpx h.1

/-- **D5.** `dfSpec g root` has one list per node. -/
theorem dfSpec_length (g : G) (root : Nat) : (dfSpec g root).length = g.size := by
  unfold dfSpec
  exact (List.length_map _).trans List.length_range

/-- a diamond with a back edge: `0→1, 0→2, 1→3, 2→3, 3→1` -/
def exD : G := #[[1, 2], [3], [3], [1]]
example : WF exD := by decide
example : dfSpec exD 0 = [[], [3], [3], [1]] := by decide +kernel
example := dfSpec_spec exD (by decide) 0 2 3 (by decide) (by decide)
example : idomSpec exD 0 = [-1, 0, 0, 0] := by decide +kernel

end MV.Graph
