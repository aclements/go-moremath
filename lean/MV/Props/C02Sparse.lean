import MV.Props.C02
/-!
# C02 — the sparse enumeration used for very large pools equals the dense model

`cdfSparse_eq_cdf`, `pmfAtSparse_eq_pmfAt`: for well-formed inputs the values computed from the
allocation vectors of the right sum (`allocsSum`) are the values of `cdf` / `pmfAt`, so the judge may use
either route.
-/
namespace MV.UDist
open Finset

lemma weightFast_eq (t r : List Nat) : weightFast t r = weight t r := by
  induction t generalizing r with
  | nil => simp [weightFast, weight]
  | cons a t ih =>
    cases r with
    | nil => simp [weightFast, weight]
    | cons b r => simp [weightFast, weight, chooseFast_eq, ih]

/-- summing over the vectors of sum `n` is summing over all vectors with the others weighted zero -/
lemma sum_allocsSum (t : List Nat) (n : Nat) (g : List Nat → Nat) :
    ((allocsSum t n).map g).sum = asum t (fun r => if r.sum = n then g r else 0) := by
  induction t generalizing n g with
  | nil =>
    rw [asum_nil]
    cases n <;> simp [allocsSum]
  | cons a t ih =>
    rw [allocsSum, sum_flatMap, sum_range_list, asum_cons]
    have hsub : range (min a n + 1) ⊆ range (a + 1) := by
      intro x hx; simp only [mem_range] at hx ⊢; omega
    rw [← sum_subset hsub]
    · apply sum_congr rfl
      intro r hr
      simp only [mem_range] at hr
      rw [List.map_map]
      have := ih (n - r) (fun rs => g (r :: rs))
      simp only [Function.comp_def]
      rw [this]
      apply asum_congr
      intro rs _
      have hrn : r ≤ n := by omega
      by_cases h : rs.sum = n - r
      · have h' : (r :: rs).sum = n := by simp only [List.sum_cons]; omega
        rw [if_pos h, if_pos h']
      · have h' : ¬ ((r :: rs).sum = n) := by simp only [List.sum_cons]; omega
        rw [if_neg h, if_neg h']
    · intro r hr hnr
      simp only [mem_range] at hr hnr
      apply asum_eq_zero
      intro rs _
      have h' : ¬ ((r :: rs).sum = n) := by simp only [List.sum_cons]; omega
      rw [if_neg h']

/-- a sum over the vectors of sum `n1` that pass a test `q`, weighted with the fast binomials -/
lemma sum_allocsSum_ite (t : List Nat) (n1 : Nat) (q : List Nat → Prop) [DecidablePred q] :
    ((allocsSum t n1).map fun r => if q r then weightFast t r else 0).sum
      = asum t (fun r => if r.sum = n1 ∧ q r then weight t r else 0) := by
  rw [sum_allocsSum]
  apply asum_congr
  intro r _
  by_cases h1 : r.sum = n1 <;> by_cases h2 : q r <;> simp [h1, h2, weightFast_eq]

theorem countSparse_eq (t : List Nat) (n1 : Nat) (k : Int) : countSparse t n1 k = countSpec t n1 k := by
  rw [countSparse, sumList_filter_map _ _ (fun r => ((twoUof t r 0 : Nat) : Int) ≤ k) _ (by simp),
    sum_allocsSum_ite, ← countSpec_eq_asum]

theorem countEqSparse_eq (t : List Nat) (n1 : Nat) (k : Int) : countEqSparse t n1 k = countEq t n1 k := by
  rw [countEqSparse, sumList_filter_map _ _ (fun r => ((twoUof t r 0 : Nat) : Int) = k) _ (by simp),
    sum_allocsSum_ite, ← countEq_eq_asum]

/-- **Sparse route = dense model (CDF).** -/
theorem cdfSparse_eq_cdf (n1 n2 : Nat) (t : List Nat) (u : Rat)
    (hN : sumList (effT n1 n2 t) = n1 + n2) :
    cdfSparse n1 n2 t u = cdf n1 n2 t u := by
  by_cases hu : u < 0
  · simp [cdfSparse, cdf, hu]
  · have hu' : 0 ≤ u := le_of_not_gt hu
    rw [cdf_eq_countSpec n1 n2 t u hN hu']
    simp [cdfSparse, hu, countSparse_eq, chooseFast_eq, choose_eq_nat]

/-- **Sparse route = dense model (point mass).** -/
theorem pmfAtSparse_eq_pmfAt (n1 n2 : Nat) (t : List Nat) (twoU : Int)
    (hN : sumList (effT n1 n2 t) = n1 + n2) :
    pmfAtSparse n1 n2 t twoU = pmfAt n1 n2 t twoU := by
  rw [pmfAt_eq_countEq n1 n2 t twoU hN]
  simp [pmfAtSparse, countEqSparse_eq, chooseFast_eq, choose_eq_nat]

example : cdfSparse 2 3 [2, 1, 2] (5 / 2) = cdf 2 3 [2, 1, 2] (5 / 2) := by
  apply cdfSparse_eq_cdf; decide

end MV.UDist
