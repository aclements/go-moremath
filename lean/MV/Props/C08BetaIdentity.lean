import Mathlib.Analysis.SpecialFunctions.Gamma.Beta
import MV.Props.C08HypSeries
/-!
# C08 — the series of `betaRegIWith` IS the regularised incomplete beta function

`betaRegIWith lb x a b` (model, `MV/Model/Special.lean`) evaluates, for `0 < x < 1`,

    direct x a b = (1/a) · exp(a·log x + b·log(1−x) − lb) · hypSeries (a+b) (a+1) x

when `x < (a+1)/(a+b+2)` and `1 − direct (1−x) b a` otherwise; `C08HypSeries` proves that
`hypSeries c d x` encloses `∑ₙ ∏_{j<n} (c+j)·x/(d+j)`.  This file proves (pure real analysis, no
model code) the classical identities behind the formula, for
`B_x(a,b) = incBeta a b x = ∫₀ˣ t^(a−1) (1−t)^(b−1) dt`:

* `incBeta_series`:  `B_x(a,b) = x^a (1−x)^b / a · ∑ₙ ∏_{j<n} (a+b+j)·x/(a+1+j)`  (`a,b > 0`, `0 ≤ x < 1`);
* `incBeta_compl`:  `B_x(a,b) + B_{1−x}(b,a) = B_1(a,b)`  (`0 ≤ x ≤ 1`);
* `incBeta_one_eq_Gamma`:  `B_1(a,b) = Γ(a)Γ(b)/Γ(a+b)`  (from Mathlib's complex `betaIntegral`);

and then the link to the model, `betaRegIWith_encloses`: with `lb ∋ log(Γ(a)Γ(b)/Γ(a+b))`, every
interval returned by `betaRegIWith lb x a b` contains `I_x(a,b) = B_x(a,b)·Γ(a+b)/(Γ(a)Γ(b))`
(both branches; `betaRegIWith_encloses_closed` includes the endpoints `x = 0, 1`).

Proof of the series: differentiating `t^a (1−t)^b` gives
`a·B_x(a,b) = x^a(1−x)^b + (a+b)·B_x(a+1,b)` (`incBeta_succ`), and
`B_x(c,b) ≤ max 1 ((1−x)^(b−1)) · x^c/c` (`incBeta_le`); these are the hypotheses of
`series_of_recurrence` (`C08HypSeries`), which iterates the recurrence and lets the remainder tend
to `0`; the series converges by the ratio test (`bT_summable`).
-/
namespace MV.Special
open MeasureTheory Set Finset Filter Topology intervalIntegral

/-- the (unregularised) incomplete beta function `B_x(a,b) = ∫₀ˣ t^(a−1) (1−t)^(b−1) dt` -/
noncomputable def incBeta (a b x : ℝ) : ℝ := ∫ t in (0 : ℝ)..x, t ^ (a - 1) * (1 - t) ^ (b - 1)

section
variable {a b x : ℝ}

lemma betaIntegrand_intervalIntegrable (ha : 0 < a) (b : ℝ) (hx0 : 0 ≤ x) (hx1 : x < 1) :
    IntervalIntegrable (fun t : ℝ => t ^ (a - 1) * (1 - t) ^ (b - 1)) volume 0 x := by
  refine (intervalIntegrable_rpow' (by linarith)).mul_continuousOn ?_
  apply ContinuousOn.rpow_const (by fun_prop)
  intro t ht
  rw [uIcc_of_le hx0] at ht
  left
  linarith [ht.2]

lemma incBeta_zero (a b : ℝ) : incBeta a b 0 = 0 := by simp [incBeta]

lemma incBeta_nonneg (a b : ℝ) (hx0 : 0 ≤ x) (hx1 : x ≤ 1) : 0 ≤ incBeta a b x :=
  integral_nonneg hx0 fun t ht =>
    mul_nonneg (Real.rpow_nonneg ht.1 _) (Real.rpow_nonneg (by linarith [ht.2]) _)

lemma one_sub_rpow_le (b : ℝ) (hx1 : x < 1) {t : ℝ} (ht0 : 0 ≤ t) (htx : t ≤ x) :
    (1 - t) ^ (b - 1) ≤ max 1 ((1 - x) ^ (b - 1)) := by
  rcases le_total 1 b with h | h
  · exact le_max_of_le_left (Real.rpow_le_one (by linarith) (by linarith) (by linarith))
  · exact le_max_of_le_right
      (Real.rpow_le_rpow_of_nonpos (by linarith) (by linarith) (by linarith))

lemma incBeta_le {c : ℝ} (hc : 0 < c) (b : ℝ) (hx0 : 0 ≤ x) (hx1 : x < 1) :
    incBeta c b x ≤ max 1 ((1 - x) ^ (b - 1)) * (x ^ c / c) :=
  integral_rpow_mul_le hc hx0 (betaIntegrand_intervalIntegrable hc b hx0 hx1)
    fun _ ht => one_sub_rpow_le b hx1 ht.1 ht.2

/-- differentiating `t^a (1−t)^b`: `a·B_x(a,b) = x^a (1−x)^b + (a+b)·B_x(a+1,b)` -/
lemma incBeta_succ (ha : 0 < a) (hb : 0 < b) (hx0 : 0 ≤ x) (hx1 : x < 1) :
    a * incBeta a b x = x ^ a * (1 - x) ^ b + (a + b) * incBeta (a + 1) b x := by
  have hI1 := betaIntegrand_intervalIntegrable ha b hx0 hx1
  have hI2 := betaIntegrand_intervalIntegrable (a := a + 1) (by linarith) b hx0 hx1
  have hF : ∫ t in (0 : ℝ)..x,
        (a * (t ^ (a - 1) * (1 - t) ^ (b - 1)) - (a + b) * (t ^ (a + 1 - 1) * (1 - t) ^ (b - 1)))
      = x ^ a * (1 - x) ^ b - (0 : ℝ) ^ a * (1 - 0) ^ b := by
    apply integral_eq_sub_of_hasDerivAt_of_le hx0 (f := fun t => t ^ a * (1 - t) ^ b)
    · exact ((Real.continuous_rpow_const ha.le).mul
        ((Real.continuous_rpow_const hb.le).comp (continuous_const.sub continuous_id))).continuousOn
    · intro t ht
      have ht0 : t ≠ 0 := ht.1.ne'
      have ht1 : 1 - t ≠ 0 := by linarith [ht.2]
      have h1 := Real.hasDerivAt_rpow_const (x := t) (p := a) (Or.inl ht0)
      have h2 : HasDerivAt (fun t : ℝ => (1 - t) ^ b) (-1 * b * (1 - t) ^ (b - 1)) t :=
        ((hasDerivAt_id t).const_sub 1).rpow_const (Or.inl ht1)
      refine (h1.mul h2).congr_deriv ?_
      rw [add_sub_cancel_right]
      have e1 : t ^ a = t ^ (a - 1) * t := by
        rw [← Real.rpow_add_one ht0, sub_add_cancel]
      have e2 : (1 - t) ^ b = (1 - t) ^ (b - 1) * (1 - t) := by
        rw [← Real.rpow_add_one ht1, sub_add_cancel]
      rw [e2, e1]
      ring
    · exact (hI1.const_mul a).sub (hI2.const_mul (a + b))
  rw [integral_sub (hI1.const_mul a) (hI2.const_mul (a + b)),
    intervalIntegral.integral_const_mul, intervalIntegral.integral_const_mul,
    Real.zero_rpow ha.ne'] at hF
  unfold incBeta
  linarith

/-- the ratio `(a+b+j)·x/(a+1+j)` of consecutive terms of the series -/
noncomputable def bq (a b x : ℝ) (j : ℕ) : ℝ := (a + b + j) * x / (a + 1 + j)

lemma bq_pos (ha : 0 < a) (hb : 0 < b) (hx : 0 < x) (j : ℕ) : 0 < bq a b x j := by
  unfold bq; positivity

lemma bT_pos (ha : 0 < a) (hb : 0 < b) (hx : 0 < x) (n : ℕ) : 0 < hT (bq a b x) n :=
  hT_pos (bq_pos ha hb hx) n

lemma bq_tendsto (a b x : ℝ) : Tendsto (bq a b x) atTop (𝓝 x) := by
  have h0 : Tendsto (fun n : ℕ => a + 1 + (n : ℝ)) atTop atTop :=
    tendsto_atTop_add_const_left atTop (a + 1) tendsto_natCast_atTop_atTop
  have h1 : Tendsto (fun n : ℕ => ((b - 1) * x) / (a + 1 + (n : ℝ))) atTop (𝓝 0) :=
    tendsto_const_nhds.div_atTop h0
  have h2 : Tendsto (fun n : ℕ => x + ((b - 1) * x) / (a + 1 + (n : ℝ))) atTop (𝓝 (x + 0)) :=
    tendsto_const_nhds.add h1
  rw [add_zero] at h2
  refine h2.congr' ?_
  filter_upwards [h0.eventually_gt_atTop 0] with n hn
  unfold bq
  field_simp
  ring

/-- the series converges for every `0 < x < 1` (ratio test) -/
lemma bT_summable (ha : 0 < a) (hb : 0 < b) (hx0 : 0 < x) (hx1 : x < 1) :
    Summable (hT (bq a b x)) := by
  refine summable_of_ratio_test_tendsto_lt_one hx1
    (Eventually.of_forall fun n => (bT_pos ha hb hx0 n).ne') ?_
  refine (bq_tendsto a b x).congr fun n => ?_
  rw [Real.norm_of_nonneg (bT_pos ha hb hx0 _).le, Real.norm_of_nonneg (bT_pos ha hb hx0 _).le,
    hT_succ, mul_div_cancel_left₀ _ (bT_pos ha hb hx0 n).ne']

end

/-- The incomplete beta function equals its series.  For `a, b > 0` and `0 ≤ x < 1`,
`∫₀ˣ t^(a−1) (1−t)^(b−1) dt = x^a (1−x)^b / a · ∑ₙ ∏_{j<n} (a+b+j)·x/(a+1+j)`. -/
theorem incBeta_series {a b x : ℝ} (ha : 0 < a) (hb : 0 < b) (hx0 : 0 ≤ x) (hx1 : x < 1) :
    incBeta a b x = x ^ a * (1 - x) ^ b / a *
      ∑' n : ℕ, ∏ j ∈ Finset.range n, ((a + b + j) * x / (a + 1 + j)) := by
  rcases hx0.eq_or_lt with rfl | hx0
  · simp [incBeta_zero, Real.zero_rpow ha.ne']
  have h := series_of_recurrence (F := fun n : ℕ => incBeta (a + n) b x) (ρ := fun n => a + b + n)
    (M := max 1 ((1 - x) ^ (b - 1))) ha hx0 (fun n => by positivity)
    (fun n => by
      rw [incBeta_succ (a := a + n) (by positivity) hb hx0.le hx1, Nat.cast_succ, ← add_assoc,
        add_right_comm a b])
    (fun n => incBeta_nonneg _ _ hx0.le hx1.le)
    (fun n => incBeta_le (by positivity) b hx0.le hx1) (bT_summable ha hb hx0 hx1)
  rwa [Nat.cast_zero, add_zero] at h

section
variable {a b x : ℝ}

lemma betaIntegrand_intervalIntegrable_full (ha : 0 < a) (hb : 0 < b) :
    IntervalIntegrable (fun t : ℝ => t ^ (a - 1) * (1 - t) ^ (b - 1)) volume 0 1 := by
  have h1 := betaIntegrand_intervalIntegrable (x := 1 / 2) ha b (by norm_num) (by norm_num)
  have h2 := (betaIntegrand_intervalIntegrable (x := 1 / 2) hb a (by norm_num)
    (by norm_num)).comp_sub_left 1
  have h3 : IntervalIntegrable (fun t : ℝ => t ^ (a - 1) * (1 - t) ^ (b - 1)) volume (1 / 2) 1 := by
    have := h2.symm
    norm_num at this
    refine this.congr ?_
    intro t _
    simp only
    ring
  exact h1.trans h3

lemma betaIntegrand_intervalIntegrable_sub (ha : 0 < a) (hb : 0 < b) {u v : ℝ}
    (hu0 : 0 ≤ u) (hu1 : u ≤ 1) (hv0 : 0 ≤ v) (hv1 : v ≤ 1) :
    IntervalIntegrable (fun t : ℝ => t ^ (a - 1) * (1 - t) ^ (b - 1)) volume u v := by
  refine (betaIntegrand_intervalIntegrable_full ha hb).mono_set ?_
  rw [Set.uIcc_of_le zero_le_one]
  exact Set.uIcc_subset_Icc ⟨hu0, hu1⟩ ⟨hv0, hv1⟩

end

lemma betaIntegrand_integrableOn {a b : ℝ} (ha : 0 < a) (hb : 0 < b) :
    IntegrableOn (fun t : ℝ => t ^ (a - 1) * (1 - t) ^ (b - 1)) (Icc 0 1) :=
  (intervalIntegrable_iff_integrableOn_Icc_of_le zero_le_one).mp
    (betaIntegrand_intervalIntegrable_full ha hb)

/-- `B_x(a,b)` is continuous in `x` at `0` from within `[0,1]` (it is a primitive) -/
lemma incBeta_continuousWithinAt_zero {a b : ℝ} (ha : 0 < a) (hb : 0 < b) :
    ContinuousWithinAt (incBeta a b) (Icc 0 1) 0 := by
  have hi : IntegrableOn (fun t : ℝ => t ^ (a - 1) * (1 - t) ^ (b - 1)) (Set.uIcc 0 1) := by
    rw [Set.uIcc_of_le zero_le_one]
    exact betaIntegrand_integrableOn ha hb
  have h := intervalIntegral.continuousOn_primitive_interval hi 0 left_mem_uIcc
  rwa [Set.uIcc_of_le zero_le_one] at h

lemma incBeta_tail {a b x : ℝ} (ha : 0 < a) (hb : 0 < b) (hx0 : 0 ≤ x) (hx1 : x ≤ 1) :
    ∫ t in x..(1 : ℝ), t ^ (a - 1) * (1 - t) ^ (b - 1) = incBeta a b 1 - incBeta a b x :=
  (integral_interval_sub_left (betaIntegrand_intervalIntegrable_full ha hb)
    (betaIntegrand_intervalIntegrable_sub ha hb le_rfl zero_le_one hx0 hx1)).symm

/-- For `a, b > 0` and `0 ≤ x ≤ 1`: `B_x(a,b) + B_{1−x}(b,a) = B_1(a,b)`
(substitution `t ↦ 1 − t`). -/
theorem incBeta_compl {a b x : ℝ} (ha : 0 < a) (hb : 0 < b) (hx0 : 0 ≤ x) (hx1 : x ≤ 1) :
    incBeta a b x + incBeta b a (1 - x) = incBeta a b 1 := by
  have h : incBeta b a (1 - x) = ∫ t in x..(1 : ℝ), t ^ (a - 1) * (1 - t) ^ (b - 1) := by
    have := intervalIntegral.integral_comp_sub_left (a := x) (b := 1)
      (fun t : ℝ => t ^ (b - 1) * (1 - t) ^ (a - 1)) 1
    simp only [sub_sub_cancel, sub_self] at this
    unfold incBeta
    rw [← this]
    exact intervalIntegral.integral_congr fun t _ => mul_comm _ _
  rw [h, incBeta_tail ha hb hx0 hx1, add_sub_cancel]

theorem incBeta_one_comm {a b : ℝ} (ha : 0 < a) (hb : 0 < b) : incBeta b a 1 = incBeta a b 1 := by
  have := incBeta_compl (x := 0) ha hb le_rfl zero_le_one
  simpa [incBeta_zero] using this

/-- For `a, b > 0`:
`∫₀¹ t^(a−1) (1−t)^(b−1) dt = Γ(a) Γ(b) / Γ(a+b)`. -/
theorem incBeta_one_eq_Gamma {a b : ℝ} (ha : 0 < a) (hb : 0 < b) :
    incBeta a b 1 = Real.Gamma a * Real.Gamma b / Real.Gamma (a + b) := by
  have h1 : ((incBeta a b 1 : ℝ) : ℂ) = Complex.betaIntegral a b := by
    unfold incBeta Complex.betaIntegral
    rw [← intervalIntegral.integral_ofReal]
    refine intervalIntegral.integral_congr fun t ht => ?_
    rw [Set.uIcc_of_le zero_le_one] at ht
    rw [Complex.ofReal_mul, Complex.ofReal_cpow ht.1, Complex.ofReal_cpow (by linarith [ht.2])]
    push_cast
    rfl
  have h2 := Complex.betaIntegral_eq_Gamma_mul_div (a : ℂ) (b : ℂ) (by simpa) (by simpa)
  rw [← h1, ← Complex.ofReal_add, Complex.Gamma_ofReal, Complex.Gamma_ofReal,
    Complex.Gamma_ofReal] at h2
  exact_mod_cast h2

lemma incBeta_one_pos {a b : ℝ} (ha : 0 < a) (hb : 0 < b) : 0 < incBeta a b 1 := by
  rw [incBeta_one_eq_Gamma ha hb]
  exact div_pos (mul_pos (Real.Gamma_pos_of_pos ha) (Real.Gamma_pos_of_pos hb))
    (Real.Gamma_pos_of_pos (add_pos ha hb))

open MV MV.I

/-- For `a, b > 0`, `0 ≤ x ≤ 1`: `I_x(a,b) = 1 − I_{1−x}(b,a)`. -/
theorem incBetaReg_reflect {a b x : ℝ} (ha : 0 < a) (hb : 0 < b) (hx0 : 0 ≤ x) (hx1 : x ≤ 1) :
    incBeta a b x / incBeta a b 1 = 1 - incBeta b a (1 - x) / incBeta b a 1 := by
  have hB := (incBeta_one_pos ha hb).ne'
  rw [incBeta_one_comm ha hb, eq_sub_iff_add_eq, ← add_div, incBeta_compl ha hb hx0 hx1,
    div_self hB]

/-- the local function `direct` of `betaRegIWith`, as a top-level definition -/
def betaDirect (lb : I) (x a b : ℚ) : Option I :=
  (hypSeries (a + b) (a + 1) x).map fun ser =>
    I.mul (I.scale (1 / a) (I.exp (I.sub (I.add (I.scale a (I.logQ x))
      (I.scale b (I.logQ (1 - x)))) lb))) ser

lemma betaRegIWith_eq (lb : I) (x a b : ℚ) :
    betaRegIWith lb x a b =
      if x ≤ 0 then some (I.ofRat 0) else if x ≥ 1 then some (I.ofRat 1) else
      if x < (a + 1) / (a + b + 2) then betaDirect lb x a b
      else (betaDirect lb (1 - x) b a).map fun v => I.sub (I.ofRat 1) v := by
  -- `hypSeries` is generalised before the case split, so that nothing tries to evaluate it on
  -- variables
  unfold betaRegIWith betaDirect
  dsimp only
  generalize hypSeries (a + b) (a + 1) x = o₁, hypSeries (b + a) (b + 1) (1 - x) = o₂
  cases o₁ <;> cases o₂ <;> rfl

/-- the `direct` formula encloses `B_x(a,b)/B` whenever `lb ∋ log B` -/
lemma betaDirect_sound (lb : I) (x a b : ℚ) (ha : 0 < a) (hb : 0 < b) (hx0 : 0 < x) (hx1 : x < 1)
    (B : ℝ) (hB : 0 < B) (hlb : Mem (Real.log B) lb) (r : I)
    (h : betaDirect lb x a b = some r) :
    Mem (incBeta (a : ℝ) (b : ℝ) (x : ℝ) / B) r := by
  have haR : (0 : ℝ) < (a : ℝ) := Rat.cast_pos.mpr ha
  have hbR : (0 : ℝ) < (b : ℝ) := Rat.cast_pos.mpr hb
  have hx0R : (0 : ℝ) < (x : ℝ) := Rat.cast_pos.mpr hx0
  have hx1R : (x : ℝ) < 1 := by exact_mod_cast hx1
  obtain ⟨ser, hser, rfl⟩ := Option.map_eq_some_iff.mp h
  have hS := hypSeries_sound (a + b) (a + 1) x (by linarith) (by linarith) hx0 ser hser
  have hl := logQ_sound (1 - x) (sub_pos.mpr hx1)
  rw [Rat.cast_add, Rat.cast_add, Rat.cast_one] at hS
  rw [Rat.cast_sub, Rat.cast_one] at hl
  have hm := mul_sound (scale_sound (1 / a) (exp_sound _ _
    (sub_sound (add_sound (scale_sound a (logQ_sound x hx0)) (scale_sound b hl)) hlb))) hS
  rw [exp_mul_log_add_sub_log hx0R hB, mul_comm (b : ℝ),
    ← Real.rpow_def_of_pos (sub_pos.mpr hx1R), Rat.cast_div, Rat.cast_one] at hm
  rw [incBeta_series haR hbR hx0R.le hx1R]
  convert hm using 1
  ring

/-- `betaRegIWith` encloses the regularised incomplete beta function, normalised by the beta
integral.  For rationals `a, b > 0`, `0 < x < 1` and `lb ∋ log B(a,b)` with
`B(a,b) = ∫₀¹ t^(a−1)(1−t)^(b−1) dt`: any interval returned by `betaRegIWith lb x a b` contains
`I_x(a,b) = (∫₀ˣ t^(a−1)(1−t)^(b−1) dt) / B(a,b)` (both branches: the direct series for
`x < (a+1)/(a+b+2)` and `1 −` the series at `(1−x, b, a)` otherwise). -/
theorem betaRegIWith_encloses_incBeta (lb : I) (x a b : ℚ) (ha : 0 < a) (hb : 0 < b)
    (hx0 : 0 < x) (hx1 : x < 1)
    (hlb : Mem (Real.log (incBeta (a : ℝ) (b : ℝ) 1)) lb)
    (r : I) (h : betaRegIWith lb x a b = some r) :
    Mem (incBeta (a : ℝ) (b : ℝ) (x : ℝ) / incBeta (a : ℝ) (b : ℝ) 1) r := by
  have haR : (0 : ℝ) < (a : ℝ) := Rat.cast_pos.mpr ha
  have hbR : (0 : ℝ) < (b : ℝ) := Rat.cast_pos.mpr hb
  have hx0R : (0 : ℝ) < (x : ℝ) := Rat.cast_pos.mpr hx0
  have hx1R : (x : ℝ) < 1 := by exact_mod_cast hx1
  have hBpos := incBeta_one_pos haR hbR
  rw [betaRegIWith_eq, if_neg (not_le.mpr hx0), if_neg (not_le.mpr hx1)] at h
  split_ifs at h with hbr
  · exact betaDirect_sound lb x a b ha hb hx0 hx1 _ hBpos hlb r h
  · rw [Option.map_eq_some_iff] at h
    obtain ⟨v, hv, rfl⟩ := h
    have hm := betaDirect_sound lb (1 - x) b a hb ha (by linarith) (by linarith) _ hBpos hlb v hv
    have := sub_sound (ofRat_sound 1) hm
    push_cast at this
    rwa [incBetaReg_reflect haR hbR hx0R.le hx1R.le, incBeta_one_comm haR hbR]

/-- `betaRegIWith` encloses the regularised incomplete beta function `I_x(a,b)`.  For rationals
`a, b > 0`, `0 < x < 1` and `lb ∋ log (Γ(a)Γ(b)/Γ(a+b))`: any interval returned by
`betaRegIWith lb x a b` contains
`I_x(a,b) = (∫₀ˣ t^(a−1)(1−t)^(b−1) dt) · Γ(a+b) / (Γ(a)Γ(b))`. -/
theorem betaRegIWith_encloses (lb : I) (x a b : ℚ) (ha : 0 < a) (hb : 0 < b)
    (hx0 : 0 < x) (hx1 : x < 1)
    (hlb : Mem (Real.log (Real.Gamma a * Real.Gamma b / Real.Gamma ((a : ℝ) + b))) lb)
    (r : I) (h : betaRegIWith lb x a b = some r) :
    Mem ((∫ t in (0 : ℝ)..(x : ℝ), t ^ ((a : ℝ) - 1) * (1 - t) ^ ((b : ℝ) - 1)) /
      (Real.Gamma a * Real.Gamma b / Real.Gamma ((a : ℝ) + b))) r := by
  have haR : (0 : ℝ) < (a : ℝ) := Rat.cast_pos.mpr ha
  have hbR : (0 : ℝ) < (b : ℝ) := Rat.cast_pos.mpr hb
  rw [← incBeta_one_eq_Gamma haR hbR] at hlb ⊢
  exact betaRegIWith_encloses_incBeta lb x a b ha hb hx0 hx1 hlb r h

/-- For rationals `a, b > 0`, `0 ≤ x ≤ 1` and
`lb ∋ log (Γ(a)Γ(b)/Γ(a+b))`: any interval returned by `betaRegIWith lb x a b` contains `I_x(a,b)`
(at `x = 0` the model returns `[0,0]`, at `x = 1` it returns `[1,1]`). -/
theorem betaRegIWith_encloses_closed (lb : I) (x a b : ℚ) (ha : 0 < a) (hb : 0 < b)
    (hx0 : 0 ≤ x) (hx1 : x ≤ 1)
    (hlb : Mem (Real.log (Real.Gamma a * Real.Gamma b / Real.Gamma ((a : ℝ) + b))) lb)
    (r : I) (h : betaRegIWith lb x a b = some r) :
    Mem ((∫ t in (0 : ℝ)..(x : ℝ), t ^ ((a : ℝ) - 1) * (1 - t) ^ ((b : ℝ) - 1)) /
      (Real.Gamma a * Real.Gamma b / Real.Gamma ((a : ℝ) + b))) r := by
  have haR : (0 : ℝ) < (a : ℝ) := Rat.cast_pos.mpr ha
  have hbR : (0 : ℝ) < (b : ℝ) := Rat.cast_pos.mpr hb
  rcases hx0.eq_or_lt with rfl | hx0
  · rw [betaRegIWith_eq, if_pos le_rfl] at h
    obtain rfl := Option.some.inj h
    simpa using ofRat_sound 0
  rcases hx1.eq_or_lt with rfl | hx1
  · rw [betaRegIWith_eq, if_neg (by norm_num), if_pos le_rfl] at h
    obtain rfl := Option.some.inj h
    have h1 := incBeta_one_eq_Gamma haR hbR
    have h2 := incBeta_one_pos haR hbR
    unfold incBeta at h1 h2
    rw [Rat.cast_one, ← h1, div_self h2.ne']
    simpa using ofRat_sound 1
  · exact betaRegIWith_encloses lb x a b ha hb hx0 hx1 hlb r h

/-- For `a, b > 0`, `0 ≤ x < 1`:
`I_x(a,b) = B_x(a,b)/B(a,b) = x^a (1−x)^b / (a·B(a,b)) · ∑ₙ ∏_{j<n} (a+b+j)·x/(a+1+j)` with
`B(a,b) = Γ(a)Γ(b)/Γ(a+b)` — the formula in the comment of the model's `direct`. -/
theorem incBetaReg_series {a b x : ℝ} (ha : 0 < a) (hb : 0 < b) (hx0 : 0 ≤ x) (hx1 : x < 1) :
    (∫ t in (0 : ℝ)..x, t ^ (a - 1) * (1 - t) ^ (b - 1)) /
        (Real.Gamma a * Real.Gamma b / Real.Gamma (a + b)) =
      x ^ a * (1 - x) ^ b / (a * (Real.Gamma a * Real.Gamma b / Real.Gamma (a + b))) *
        ∑' n : ℕ, ∏ j ∈ Finset.range n, ((a + b + j) * x / (a + 1 + j)) := by
  have h := incBeta_series ha hb hx0 hx1
  unfold incBeta at h
  rw [h]
  ring

lemma incBeta_one_one (x : ℝ) : incBeta 1 1 x = x := by simp [incBeta]

/-- `incBeta_series` at `a = b = 1`: the ratios are `(2+j)x/(2+j) = x`, the series is the geometric
series, and the identity reads `x(1−x) · ∑ xⁿ = x`. -/
example (x : ℝ) (hx0 : 0 ≤ x) (hx1 : x < 1) :
    x * (1 - x) * ∑' n : ℕ, ∏ j ∈ Finset.range n, (((1 : ℝ) + 1 + j) * x / ((1 : ℝ) + 1 + j)) = x := by
  have h := incBeta_series (a := 1) (b := 1) one_pos one_pos hx0 hx1
  rw [incBeta_one_one, Real.rpow_one, Real.rpow_one, div_one] at h
  exact h.symm

/-- the terms of that series are indeed `xⁿ` -/
example (x : ℝ) (n : ℕ) :
    ∏ j ∈ Finset.range n, (((1 : ℝ) + 1 + j) * x / ((1 : ℝ) + 1 + j)) = x ^ n := by
  have : ∀ j : ℕ, ((1 : ℝ) + 1 + j) * x / ((1 : ℝ) + 1 + j) = x := fun j => by
    have : (0 : ℝ) < 1 + 1 + j := by positivity
    field_simp
  simp [this]

/-- `incBeta_series` at non-integer parameters -/
example : incBeta (5 / 2) (3 / 2) (1 / 4) =
    (1 / 4 : ℝ) ^ (5 / 2 : ℝ) * (1 - 1 / 4) ^ (3 / 2 : ℝ) / (5 / 2) *
      ∑' n : ℕ, ∏ j ∈ Finset.range n, (((5 / 2 : ℝ) + 3 / 2 + j) * (1 / 4) / ((5 / 2 : ℝ) + 1 + j)) :=
  incBeta_series (by norm_num) (by norm_num) (by norm_num) (by norm_num)

/-- `incBeta_compl` at `a = b = 1`, `x = 1/3`: `1/3 + 2/3 = 1` -/
example : incBeta 1 1 (1 / 3) + incBeta 1 1 (1 - 1 / 3) = incBeta 1 1 1 :=
  incBeta_compl one_pos one_pos (by norm_num) (by norm_num)

/-- `incBeta_one_eq_Gamma` at `a = b = 1/2`: `∫₀¹ dt/√(t(1−t)) = π` -/
example : ∫ t in (0 : ℝ)..1, t ^ ((1 / 2 : ℝ) - 1) * (1 - t) ^ ((1 / 2 : ℝ) - 1) = Real.pi := by
  have h := incBeta_one_eq_Gamma (a := 1 / 2) (b := 1 / 2) (by norm_num) (by norm_num)
  rw [show (1 / 2 : ℝ) + 1 / 2 = 1 by norm_num, Real.Gamma_one, Real.Gamma_one_half_eq, div_one,
    Real.mul_self_sqrt Real.pi_pos.le] at h
  exact h

lemma beta_half_half : Real.Gamma ((1 / 2 : ℚ) : ℝ) * Real.Gamma ((1 / 2 : ℚ) : ℝ) /
    Real.Gamma ((((1 / 2 : ℚ)) : ℝ) + ((1 / 2 : ℚ) : ℝ)) = Real.pi := by
  push_cast
  rw [add_halves, Real.Gamma_one, Real.Gamma_one_half_eq, div_one,
    Real.mul_self_sqrt Real.pi_pos.le]

/-- `log B(1/2,1/2) = log π` lies in the interval `I.log I.pi` -/
lemma log_beta_half_half_mem :
    Mem (Real.log (Real.Gamma ((1 / 2 : ℚ) : ℝ) * Real.Gamma ((1 / 2 : ℚ) : ℝ) /
      Real.Gamma ((((1 / 2 : ℚ)) : ℝ) + ((1 / 2 : ℚ) : ℝ)))) (I.log I.pi) := by
  rw [beta_half_half]
  exact log_sound _ _ pi_sound pi_lo_pos

lemma betaRegIWith_quarter_bounds : ((betaRegIWith (I.log I.pi) (1 / 4) (1 / 2) (1 / 2)).any
    (fun e => decide ((33333 / 100000 : ℚ) ≤ e.lo) && decide (e.hi ≤ (33334 / 100000 : ℚ)))) = true := by
  decide +kernel

/-- `betaRegIWith_encloses`: direct branch: `a = b = 1/2`, `x = 1/4`,
`lb = log [π]`; the model returns an interval and it contains `I_{1/4}(1/2,1/2)` (`= 1/3`) -/
example : ∃ r, betaRegIWith (I.log I.pi) (1 / 4) (1 / 2) (1 / 2) = some r ∧
    Mem ((∫ t in (0 : ℝ)..((1 / 4 : ℚ) : ℝ),
        t ^ (((1 / 2 : ℚ) : ℝ) - 1) * (1 - t) ^ (((1 / 2 : ℚ) : ℝ) - 1)) /
      (Real.Gamma ((1 / 2 : ℚ) : ℝ) * Real.Gamma ((1 / 2 : ℚ) : ℝ) /
        Real.Gamma ((((1 / 2 : ℚ)) : ℝ) + ((1 / 2 : ℚ) : ℝ)))) r := by
  obtain ⟨r, hr, -⟩ := exists_bounds_of_any betaRegIWith_quarter_bounds
  exact ⟨r, hr, betaRegIWith_encloses _ _ _ _ (by norm_num) (by norm_num) (by norm_num)
    (by norm_num) log_beta_half_half_mem r hr⟩

/-- reflected branch (`x = 3/4 ≥ (a+1)/(a+b+2) = 1/2`) -/
example : ∃ r, betaRegIWith (I.log I.pi) (3 / 4) (1 / 2) (1 / 2) = some r ∧
    Mem ((∫ t in (0 : ℝ)..((3 / 4 : ℚ) : ℝ),
        t ^ (((1 / 2 : ℚ) : ℝ) - 1) * (1 - t) ^ (((1 / 2 : ℚ) : ℝ) - 1)) /
      (Real.Gamma ((1 / 2 : ℚ) : ℝ) * Real.Gamma ((1 / 2 : ℚ) : ℝ) /
        Real.Gamma ((((1 / 2 : ℚ)) : ℝ) + ((1 / 2 : ℚ) : ℝ)))) r := by
  have hs : (betaRegIWith (I.log I.pi) (3 / 4) (1 / 2) (1 / 2)).isSome = true := by decide +kernel
  obtain ⟨r, hr⟩ := Option.isSome_iff_exists.mp hs
  exact ⟨r, hr, betaRegIWith_encloses _ _ _ _ (by norm_num) (by norm_num) (by norm_num)
    (by norm_num) log_beta_half_half_mem r hr⟩

/-- `betaRegIWith_encloses_closed` at the endpoint `x = 1` (`a = b = 1/2`): the model returns `[1,1]`
and `I_1(1/2,1/2) = 1` lies in it -/
example : ∃ r, betaRegIWith (I.log I.pi) 1 (1 / 2) (1 / 2) = some r ∧
    Mem ((∫ t in (0 : ℝ)..((1 : ℚ) : ℝ),
        t ^ (((1 / 2 : ℚ) : ℝ) - 1) * (1 - t) ^ (((1 / 2 : ℚ) : ℝ) - 1)) /
      (Real.Gamma ((1 / 2 : ℚ) : ℝ) * Real.Gamma ((1 / 2 : ℚ) : ℝ) /
        Real.Gamma ((((1 / 2 : ℚ)) : ℝ) + ((1 / 2 : ℚ) : ℝ)))) r :=
  ⟨I.ofRat 1, rfl, betaRegIWith_encloses_closed _ _ _ _ (by norm_num) (by norm_num) (by norm_num)
    (by norm_num) log_beta_half_half_mem _ rfl⟩

/-- `betaRegIWith_encloses_incBeta` at `a = b = 1` (`B(1,1) = 1`, `lb = [0,0]`), reflected branch:
the returned interval contains `I_{3/4}(1,1) = 3/4` -/
example : ∃ r, betaRegIWith (I.ofRat 0) (3 / 4) 1 1 = some r ∧ Mem (3 / 4 : ℝ) r := by
  have hs : (betaRegIWith (I.ofRat 0) (3 / 4) 1 1).isSome = true := by decide +kernel
  obtain ⟨r, hr⟩ := Option.isSome_iff_exists.mp hs
  have h := betaRegIWith_encloses_incBeta (I.ofRat 0) (3 / 4) 1 1 (by norm_num) (by norm_num)
    (by norm_num) (by norm_num)
    (by rw [Rat.cast_one, incBeta_one_one, Real.log_one]; simpa using ofRat_sound 0) r hr
  rw [Rat.cast_one, incBeta_one_one, incBeta_one_one] at h
  exact ⟨r, hr, by simpa using h⟩

/-- `incBeta_one_comm`, `incBetaReg_reflect`, `incBetaReg_series` at non-integer parameters -/
example : incBeta (3 / 2) (5 / 2) 1 = incBeta (5 / 2) (3 / 2) 1 :=
  incBeta_one_comm (by norm_num) (by norm_num)

example : incBeta (5 / 2) (3 / 2) (1 / 4) / incBeta (5 / 2) (3 / 2) 1 =
    1 - incBeta (3 / 2) (5 / 2) (1 - 1 / 4) / incBeta (3 / 2) (5 / 2) 1 :=
  incBetaReg_reflect (by norm_num) (by norm_num) (by norm_num) (by norm_num)

example : (∫ t in (0 : ℝ)..(1 / 4), t ^ ((5 / 2 : ℝ) - 1) * (1 - t) ^ ((3 / 2 : ℝ) - 1)) /
      (Real.Gamma (5 / 2) * Real.Gamma (3 / 2) / Real.Gamma (5 / 2 + 3 / 2)) =
    (1 / 4 : ℝ) ^ (5 / 2 : ℝ) * (1 - 1 / 4) ^ (3 / 2 : ℝ) /
        (5 / 2 * (Real.Gamma (5 / 2) * Real.Gamma (3 / 2) / Real.Gamma (5 / 2 + 3 / 2))) *
      ∑' n : ℕ, ∏ j ∈ Finset.range n, (((5 / 2 : ℝ) + 3 / 2 + j) * (1 / 4) / ((5 / 2 : ℝ) + 1 + j)) :=
  incBetaReg_series (by norm_num) (by norm_num) (by norm_num) (by norm_num)

/-- a concrete numerical consequence: `0.33333 ≤ (∫₀^{1/4} dt/√(t(1−t))) / π ≤ 0.33334`
(the true value is `(2/π)·arcsin(1/2) = 1/3`) -/
example :
    (33333 / 100000 : ℝ) ≤ (∫ t in (0 : ℝ)..(1 / 4),
        t ^ ((1 / 2 : ℝ) - 1) * (1 - t) ^ ((1 / 2 : ℝ) - 1)) / Real.pi ∧
      (∫ t in (0 : ℝ)..(1 / 4),
        t ^ ((1 / 2 : ℝ) - 1) * (1 - t) ^ ((1 / 2 : ℝ) - 1)) / Real.pi ≤ 33334 / 100000 := by
  obtain ⟨e, he, hb⟩ := exists_bounds_of_any betaRegIWith_quarter_bounds
  have := hb _ (betaRegIWith_encloses _ _ _ _ (by norm_num) (by norm_num) (by norm_num)
    (by norm_num) log_beta_half_half_mem e he)
  rw [beta_half_half] at this
  push_cast at this ⊢
  exact this

end MV.Special
