import Mathlib.Analysis.Real.Pi.Bounds
import MV.Props.C08HypSeries
/-!
# C08 — series branch of the regularised incomplete gamma reference

For `0 < x ≤ 2a + 100` the executable reference `MV.Special.gammaRegIWith lg a x` evaluates in
fixed point (unit `one = 2^128`, every term rounded UP) the power series

    S(a,x) = Σ_{n≥0} T_n,   T_0 = 1,  T_{n+1} = T_n · q_n,  q_n = x/(a+n+1),

and returns `exp(e) · ser` where `e ∋ a·log x − x − log Γ(a+1)` and

    ser = [ max 1 ((s − m²)/(1 + m/one)/one),  (s + 2t + 1)/one ],   m = n + 2,

`(s, t, n)` being the running sum, the last term and the last index of the loop
(`gammaRegIWith.go`, fuel `100000`; it stops once `t ≤ 2` units and `q_n ≤ 1/2`, and the result is
`none` unless `q_n ≤ 1/2` at exit: `Model/Special.lean`, `gammaRegIWith`).  This file proves
that `ser` contains the real number `S(a,x)` (`gammaSeries_sound`) and that the returned interval
contains `x^a e^(−x)/Γ(a+1) · S(a,x)` (`gammaRegIWith_series_sound`).
-/
namespace MV.Special
open MV MV.I Finset

/-- the enclosure of the exponent `a·log x − x − log Γ(a+1)` used by the series branch -/
def gammaSeriesExp (lg : I) (a x : ℚ) : I :=
  I.sub (I.sub (I.scale a (I.logQ x)) (I.ofRat x)) lg

lemma gammaRegIWith_series_eq (lg : I) (a x : ℚ) (hx0 : 0 < x) (hx : ¬ x > 2 * a + 100) :
    gammaRegIWith lg a x =
      (gammaSer a x).map (fun ser => I.mul (I.exp (gammaSeriesExp lg a x)) ser) := by
  unfold gammaRegIWith
  rw [if_neg (not_le.mpr hx0), if_neg hx]
  unfold gammaSer gammaLoop gammaSerOf gammaSeriesExp
  dsimp only
  split_ifs <;> rfl

/-- the ratio `q_n = x/(a+n+1)` of consecutive terms -/
noncomputable def gq (a x : ℝ) (n : ℕ) : ℝ := x / (a + n + 1)

section real
variable {a x : ℝ}

lemma gden_pos (ha : 0 < a) (n : ℕ) : 0 < a + n + 1 := by positivity

/-- the exact term `T_n = ∏_{j<n} q_j` is `x^n / ((a+1)(a+2)…(a+n))` -/
lemma hT_gq (a x : ℝ) (n : ℕ) : hT (gq a x) n = x ^ n / ∏ j ∈ range n, (a + j + 1) := by
  unfold hT gq
  rw [prod_div_distrib, prod_const, card_range]

lemma gq_pos (ha : 0 < a) (hx : 0 < x) (n : ℕ) : 0 < gq a x n :=
  div_pos hx (gden_pos ha n)

lemma gT_pos (ha : 0 < a) (hx : 0 < x) (n : ℕ) : 0 < hT (gq a x) n :=
  hT_pos (gq_pos ha hx) n

lemma gq_anti (ha : 0 < a) (hx : 0 < x) {m n : ℕ} (h : m ≤ n) : gq a x n ≤ gq a x m := by
  unfold gq
  apply div_le_div_of_nonneg_left hx.le (gden_pos ha m)
  have : (m : ℝ) ≤ n := by exact_mod_cast h
  linarith

/-- while the ratio is still `≥ 1`, the terms have only grown: `T_j ≥ T_0 = 1` -/
lemma one_le_gT (ha : 0 < a) (hx : 0 < x) {k : ℕ} (hk : 1 ≤ gq a x k) :
    ∀ j, j ≤ k → 1 ≤ hT (gq a x) j := by
  intro j
  induction j with
  | zero => intro _; rw [hT_zero]
  | succ j ih =>
    intro hj
    rw [hT_succ]
    have h1 := ih (by omega)
    have h2 : 1 ≤ gq a x j := hk.trans (gq_anti ha hx (by omega))
    calc (1 : ℝ) = 1 * 1 := by ring
      _ ≤ hT (gq a x) j * gq a x j := mul_le_mul h1 h2 zero_le_one (by linarith)

/-- once `q_n ≤ 1/2` the later ratios are at most `1/2` too: the hypothesis of the tail bounds
`hT_summable`, `hT_tsum_bounds` with `r = 1/2` -/
lemma gq_le_half (ha : 0 < a) (hx : 0 < x) {n : ℕ} (hq : gq a x n ≤ 1 / 2) :
    ∀ k, n ≤ k → gq a x k ≤ 1 / 2 :=
  fun _ hk => (gq_anti ha hx hk).trans hq

lemma one_le_gT_sum (ha : 0 < a) (hx : 0 < x) (n : ℕ) : 1 ≤ ∑ k ∈ range (n + 1), hT (gq a x) k := by
  rw [sum_range_succ']
  have : 0 ≤ ∑ k ∈ range n, hT (gq a x) (k + 1) := sum_nonneg fun k _ => (gT_pos ha hx _).le
  rw [hT_zero]; linarith

/-! ### the loop invariant

`N` is the fixed-point unit; each step multiplies the computed term by `q_n` and rounds up by at
most one unit. -/

/-- loop invariant at index `n`: `t` is the exact scaled term `N·T_n` rounded up with excess at most
`n·max(T_n, 1)` units, `s` the scaled partial sum `N·P_n` with excess at most `n·P_n + n(n+1)` -/
def GInv (a x N : ℝ) (n s t : ℕ) : Prop :=
  N * hT (gq a x) n ≤ t ∧ (t : ℝ) - N * hT (gq a x) n ≤ n * max (hT (gq a x) n) 1 ∧
    N * ∑ k ∈ range (n + 1), hT (gq a x) k ≤ s ∧
    (s : ℝ) - N * ∑ k ∈ range (n + 1), hT (gq a x) k ≤
      n * ∑ k ∈ range (n + 1), hT (gq a x) k + n * (n + 1)

lemma GInv_step (ha : 0 < a) (hx : 0 < x) {N : ℝ} {n s t t' : ℕ} (h : GInv a x N n s t)
    (h1 : (t : ℝ) * gq a x n ≤ t') (h2 : (t' : ℝ) ≤ t * gq a x n + 1) :
    GInv a x N (n + 1) (s + t') t' := by
  obtain ⟨a1, a2, a3, a4⟩ := h
  have hq0 := (gq_pos ha hx n).le
  have hT1 := (gT_pos ha hx (n + 1)).le
  obtain ⟨g1, e⟩ := round_step hq0 a1 h1 h2
  -- `max(T_n, 1)·q_n ≤ max(T_{n+1}, 1)`: if `q_n > 1` the terms have only grown so far, `T_n ≥ 1`
  have hM : max (hT (gq a x) n) 1 * gq a x n ≤ max (hT (gq a x) (n + 1)) 1 := by
    rw [max_mul_of_nonneg _ _ hq0, one_mul, ← hT_succ]
    apply max_le (le_max_left _ _)
    rcases le_total (gq a x n) 1 with h | h
    · exact h.trans (le_max_right _ _)
    · refine le_trans ?_ (le_max_left _ _)
      rw [hT_succ]
      exact le_mul_of_one_le_left hq0 (one_le_gT ha hx h n le_rfl)
  have g2 : (t' : ℝ) - N * hT (gq a x) (n + 1) ≤
      ((n + 1 : ℕ) : ℝ) * max (hT (gq a x) (n + 1)) 1 := by
    have e1 := mul_le_mul_of_nonneg_right a2 hq0
    have e2 := mul_le_mul_of_nonneg_left hM (Nat.cast_nonneg n)
    have e3 : (1 : ℝ) ≤ max (hT (gq a x) (n + 1)) 1 := le_max_right _ _
    push_cast
    linarith
  refine ⟨g1, g2, ?_, ?_⟩
  · rw [sum_range_succ]; push_cast; linarith
  · have hmax : ((n + 1 : ℕ) : ℝ) * max (hT (gq a x) (n + 1)) 1 ≤
        ((n + 1 : ℕ) : ℝ) * (hT (gq a x) (n + 1) + 1) :=
      mul_le_mul_of_nonneg_left (max_le (by linarith) (by linarith)) (Nat.cast_nonneg _)
    have hP : 0 ≤ ∑ k ∈ range (n + 1), hT (gq a x) k :=
      sum_nonneg fun k _ => (gT_pos ha hx k).le
    rw [sum_range_succ _ (n + 1)]
    push_cast at hmax g2 ⊢
    linarith

end real

lemma go_zero (aN aD xN xD n s t : ℕ) :
    gammaRegIWith.go aN aD xN xD 0 n s t = (s, t, n) := rfl

lemma go_succ (aN aD xN xD f n s t : ℕ) :
    gammaRegIWith.go aN aD xN xD (f + 1) n s t =
      if t ≤ 2 ∧ 2 * (xN * aD) ≤ (aN + (n + 1) * aD) * xD then (s, t, n)
      else gammaRegIWith.go aN aD xN xD f (n + 1)
        (s + (t * (xN * aD) + (aN + (n + 1) * aD) * xD - 1) / ((aN + (n + 1) * aD) * xD))
        ((t * (xN * aD) + (aN + (n + 1) * aD) * xD - 1) / ((aN + (n + 1) * aD) * xD)) := rfl

lemma gq_eq_natCast_div (a x : ℚ) (ha : 0 < a) (hx : 0 < x) (k : ℕ) :
    ((x.num.toNat * a.den : ℕ) : ℝ) / (((a.num.toNat + (k + 1) * a.den) * x.den : ℕ) : ℝ) =
      gq (a : ℝ) (x : ℝ) k := by
  unfold gq
  rw [add_assoc, ← Nat.cast_succ, rat_add_nat_cast a ha, rat_cast_toNat_div x hx, div_div_div_eq]
  push_cast
  ring

lemma GInv_zero (a x : ℝ) (N : ℕ) : GInv a x N 0 N N := by
  simp only [GInv, zero_add, sum_range_one, hT_zero, mul_one, sub_self, Nat.cast_zero, zero_mul,
    add_zero, le_refl, and_self]

lemma gamma_go_inv (a x : ℚ) (ha : 0 < a) (hx : 0 < x) {N : ℝ} (fuel : ℕ) :
    ∀ n s t, GInv (a : ℝ) (x : ℝ) N n s t →
      GInv (a : ℝ) (x : ℝ) N
        (gammaRegIWith.go a.num.toNat a.den x.num.toNat x.den fuel n s t).2.2
        (gammaRegIWith.go a.num.toNat a.den x.num.toNat x.den fuel n s t).1
        (gammaRegIWith.go a.num.toNat a.den x.num.toNat x.den fuel n s t).2.1 := by
  induction fuel with
  | zero => exact fun n s t h => h
  | succ f ih =>
    intro n s t h
    rw [go_succ]
    split_ifs with c
    · exact h
    · have hc := ceilDiv_cast t (x.num.toNat * a.den) ((a.num.toNat + (n + 1) * a.den) * x.den)
        (Nat.mul_pos (Nat.add_pos_right _ (Nat.mul_pos n.succ_pos a.den_pos)) x.den_pos)
      rw [gq_eq_natCast_div a x ha hx n] at hc
      exact ih _ _ _ (GInv_step (Rat.cast_pos.mpr ha) (Rat.cast_pos.mpr hx) h hc.1 hc.2)

lemma gammaLoop_GInv (a x : ℚ) (ha : 0 < a) (hx : 0 < x) :
    GInv (a : ℝ) (x : ℝ) ((I.scaleN : ℕ) : ℝ) (gammaLoop a x).2.2 (gammaLoop a x).1
      (gammaLoop a x).2.1 :=
  gamma_go_inv a x ha hx 100000 0 scaleN scaleN (GInv_zero _ _ _)

/-- the interval formed from a triple satisfying the invariant, with final ratio `≤ 1/2`,
contains the sum of the series -/
lemma gammaSerOf_sound {a x : ℝ} (ha : 0 < a) (hx : 0 < x) {sN tN K : ℕ}
    (hq : gq a x K ≤ 1 / 2) (hI : GInv a x ((I.scaleN : ℕ) : ℝ) K sN tN) :
    Mem (∑' k, hT (gq a x) k) (gammaSerOf (sN, tN, K)) := by
  obtain ⟨h3, -, h1, h2⟩ := hI
  have hN : (0 : ℝ) < ((I.scaleN : ℕ) : ℝ) := by exact_mod_cast scaleN_posR
  set N : ℝ := ((I.scaleN : ℕ) : ℝ) with hNdef
  set P : ℝ := ∑ k ∈ range (K + 1), hT (gq a x) k
  set S : ℝ := ∑' k, hT (gq a x) k
  have hP1 : 1 ≤ P := one_le_gT_sum ha hx K
  obtain ⟨hPS, hSP⟩ := hT_tsum_bounds (fun n => (gq_pos ha hx n).le) (gq_le_half ha hx hq)
    (by norm_num : (1 / 2 : ℝ) < 1)
  rw [show (1 / 2 : ℝ) / (1 - 1 / 2) = 1 by norm_num, mul_one] at hSP
  have hK0 : (0 : ℝ) ≤ K := Nat.cast_nonneg _
  refine mem_ratMax_div scaleN_pos (hP1.trans hPS) ?_ ?_
  · -- `s ≤ (N + K)·P + K(K+1) ≤ (N + K)·S + K(K+1)` and `K(K+1) − (K+2)² ≤ 0 ≤ 2·S`
    have h4 : (N + K) * P ≤ (N + K) * S := mul_le_mul_of_nonneg_left hPS (by positivity)
    push_cast
    rw [← hNdef, div_le_iff₀ (by positivity), mul_assoc, mul_add N, mul_one,
      mul_div_cancel₀ _ hN.ne']
    linarith
  · have h4 : S * N ≤ (P + hT (gq a x) K) * N := mul_le_mul_of_nonneg_right hSP hN.le
    push_cast
    linarith

/-- the real series lies in the interval returned by `gammaSer` (whatever `x > 0`), whose lower
end is at least `1` -/
lemma gammaSer_mem (a x : ℚ) (ha : 0 < a) (hx0 : 0 < x) (ser : I) (h : gammaSer a x = some ser) :
    Mem (∑' n : ℕ, (x : ℝ) ^ n / ∏ j ∈ Finset.range n, ((a : ℝ) + j + 1)) ser ∧ 1 ≤ ser.lo := by
  have haR : (0 : ℝ) < (a : ℝ) := Rat.cast_pos.mpr ha
  have hxR : (0 : ℝ) < (x : ℝ) := Rat.cast_pos.mpr hx0
  unfold gammaSer at h
  split_ifs at h with hq
  obtain rfl := Option.some.inj h
  have hq' : gq (a : ℝ) (x : ℝ) (gammaLoop a x).2.2 ≤ 1 / 2 := by
    have h6 : ((x / (a + (((gammaLoop a x).2.2 + 1 : ℕ) : ℚ)) : ℚ) : ℝ) ≤ ((1 / 2 : ℚ) : ℝ) := by
      exact_mod_cast not_lt.mp hq
    push_cast at h6
    rwa [gq, add_assoc]
  simp only [← hT_gq]
  refine ⟨gammaSerOf_sound haR hxR hq' (gammaLoop_GInv a x ha hx0), ?_⟩
  show 1 ≤ ratMax 1 _
  rw [ratMax_eq]
  exact le_max_left _ _

/-- Soundness of the series enclosure.  For rationals `a > 0` and `0 < x ≤ 2a + 100`: whenever
the series part of `gammaRegIWith` yields an interval `ser` (i.e. the loop ended with ratio
`x/(a+n+1) ≤ 1/2`), then (i) `gammaRegIWith lg a x` is `some (exp(e) · ser)` with `e` the enclosure
of the exponent, and (ii) the real number `Σ_{n≥0} x^n / ((a+1)(a+2)…(a+n))` lies in `ser`:
the lower end `max 1 ((s − m²)/(1 + m/one)/one)` and the upper end `(s + 2t + 1)/one` of the model
are both valid.  (Part (ii) does not use `x ≤ 2a + 100`.) -/
theorem gammaSeries_sound (lg : I) (a x : ℚ) (ha : 0 < a) (hx0 : 0 < x) (hx : ¬ x > 2 * a + 100)
    (ser : I) (h : gammaSer a x = some ser) :
    gammaRegIWith lg a x = some (I.mul (I.exp (gammaSeriesExp lg a x)) ser) ∧
      Mem (∑' n : ℕ, (x : ℝ) ^ n / ∏ j ∈ Finset.range n, ((a : ℝ) + j + 1)) ser :=
  ⟨by rw [gammaRegIWith_series_eq lg a x hx0 hx, h]; rfl, (gammaSer_mem a x ha hx0 ser h).1⟩

lemma gammaSer_five_halves_three_isSome : (gammaSer (5 / 2) 3).isSome = true := by decide +kernel

/-- `a = 5/2`, `x = 3` — the loop ends with ratio `≤ 1/2`, the series
part returns an interval, and that interval contains `Σ 3^n/((7/2)(9/2)…(5/2+n))` -/
example : ∃ ser, gammaSer (5 / 2) 3 = some ser ∧
    gammaRegIWith (lgammaI (5 / 2 + 1)) (5 / 2) 3 =
      some (I.mul (I.exp (gammaSeriesExp (lgammaI (5 / 2 + 1)) (5 / 2) 3)) ser) ∧
    Mem (∑' n : ℕ, (((3 : ℚ) : ℝ)) ^ n / ∏ j ∈ Finset.range n, ((((5 / 2 : ℚ)) : ℝ) + j + 1))
      ser := by
  obtain ⟨ser, hser⟩ := Option.isSome_iff_exists.mp gammaSer_five_halves_three_isSome
  exact ⟨ser, hser, gammaSeries_sound _ (5 / 2) 3 (by norm_num) (by norm_num) (by norm_num) ser hser⟩

/-- with growing terms first: `a = 1/2`, `x = 100` (ratios `> 1` for the first 99 steps) -/
example : ∃ ser, gammaSer (1 / 2) 100 = some ser ∧
    Mem (∑' n : ℕ, (((100 : ℚ) : ℝ)) ^ n / ∏ j ∈ Finset.range n, ((((1 / 2 : ℚ)) : ℝ) + j + 1))
      ser := by
  have hs : (gammaSer (1 / 2) 100).isSome = true := by decide +kernel
  obtain ⟨ser, hser⟩ := Option.isSome_iff_exists.mp hs
  exact ⟨ser, hser,
    (gammaSeries_sound (I.ofRat 0) (1 / 2) 100 (by norm_num) (by norm_num) (by norm_num) ser hser).2⟩

lemma gammaSeriesExp_sound (e : I) (c x : ℚ) (hx0 : 0 < x) {y : ℝ} (hy : Mem y e) :
    Mem ((c : ℝ) * Real.log x - x - y) (gammaSeriesExp e c x) :=
  sub_sound (sub_sound (scale_sound c (logQ_sound x hx0)) (ofRat_sound x)) hy

/-- Soundness of the series branch of `gammaRegIWith`.  For rationals `a > 0`, `0 < x ≤ 2a+100`
and any interval `lg` containing `log Γ(a+1)`: whenever `gammaRegIWith lg a x` returns an interval
`r`, that interval contains `x^a e^(−x)/Γ(a+1) · Σ_{n≥0} x^n/((a+1)…(a+n))` (which is the
regularised lower incomplete gamma function `P(a,x)`: `lowerGammaReg_series` in
`C08GammaIdentity`). -/
theorem gammaRegIWith_series_sound (lg : I) (a x : ℚ) (ha : 0 < a) (hx0 : 0 < x)
    (hx : ¬ x > 2 * a + 100) (hlg : Mem (Real.log (Real.Gamma ((a : ℝ) + 1))) lg)
    (r : I) (h : gammaRegIWith lg a x = some r) :
    Mem ((x : ℝ) ^ (a : ℝ) * Real.exp (-(x : ℝ)) / Real.Gamma ((a : ℝ) + 1) *
      ∑' n : ℕ, (x : ℝ) ^ n / ∏ j ∈ Finset.range n, ((a : ℝ) + j + 1)) r := by
  have haR : (0 : ℝ) < (a : ℝ) := Rat.cast_pos.mpr ha
  have hxR : (0 : ℝ) < (x : ℝ) := Rat.cast_pos.mpr hx0
  rw [gammaRegIWith_series_eq lg a x hx0 hx] at h
  obtain ⟨ser, hs, rfl⟩ := Option.map_eq_some_iff.mp h
  refine mul_sound ?_ (gammaSeries_sound lg a x ha hx0 hx ser hs).2
  have he := exp_sound _ _ (gammaSeriesExp_sound lg a x hx0 hlg)
  rwa [sub_eq_add_neg ((a : ℝ) * _), exp_mul_log_add_sub_log hxR
    (Real.Gamma_pos_of_pos (by linarith))] at he

/-- `log Γ(7/2) = log (15√π/8) ∈ [1, 2]` -/
lemma log_Gamma_seven_halves_mem :
    Mem (Real.log (Real.Gamma ((((5 / 2 : ℚ)) : ℝ) + 1))) ⟨1, 2⟩ := by
  have hG : Real.Gamma ((((5 / 2 : ℚ)) : ℝ) + 1) = 15 / 8 * Real.sqrt Real.pi := by
    rw [show ((((5 / 2 : ℚ)) : ℝ)) = 1 / 2 + 1 + 1 by norm_num,
      Real.Gamma_add_one (by norm_num), Real.Gamma_add_one (by norm_num),
      Real.Gamma_add_one (by norm_num), Real.Gamma_one_half_eq]
    ring
  rw [hG]
  have hpi1 : (17 / 10 : ℝ) ≤ Real.sqrt Real.pi :=
    Real.le_sqrt_of_sq_le (by norm_num; linarith [Real.pi_gt_three])
  have hpi2 : Real.sqrt Real.pi ≤ 2 :=
    (Real.sqrt_le_left (by norm_num)).mpr (by norm_num; exact Real.pi_le_four)
  refine mem_of_le_of_le ?_ ?_
  · rw [Rat.cast_one, Real.le_log_iff_exp_le (by positivity)]
    linarith [Real.exp_one_lt_d9]
  · have h2 : (2 : ℝ) ≤ Real.exp 1 := by linarith [Real.add_one_le_exp (1 : ℝ)]
    rw [Rat.cast_ofNat, Real.log_le_iff_le_exp (by positivity), show (2 : ℝ) = 1 + 1 by norm_num,
      Real.exp_add]
    calc 15 / 8 * Real.sqrt Real.pi ≤ 2 * 2 := by linarith
      _ ≤ Real.exp 1 * Real.exp 1 := mul_le_mul h2 h2 zero_le_two (Real.exp_pos 1).le

/-- `a = 5/2`, `x = 3`, `lg = [1, 2] ∋ log Γ(7/2)`: the model returns an interval and
it contains `3^(5/2) e^(−3)/Γ(7/2) · S(5/2, 3)` -/
example : ∃ r, gammaRegIWith ⟨1, 2⟩ (5 / 2) 3 = some r ∧
    Mem ((((3 : ℚ)) : ℝ) ^ (((5 / 2 : ℚ)) : ℝ) * Real.exp (-(((3 : ℚ)) : ℝ)) /
        Real.Gamma ((((5 / 2 : ℚ)) : ℝ) + 1) *
      ∑' n : ℕ, (((3 : ℚ)) : ℝ) ^ n / ∏ j ∈ Finset.range n, ((((5 / 2 : ℚ)) : ℝ) + j + 1)) r := by
  obtain ⟨ser, hser⟩ := Option.isSome_iff_exists.mp gammaSer_five_halves_three_isSome
  have h1 := (gammaSeries_sound ⟨1, 2⟩ (5 / 2) 3 (by norm_num) (by norm_num) (by norm_num)
    ser hser).1
  exact ⟨_, h1, gammaRegIWith_series_sound ⟨1, 2⟩ (5 / 2) 3 (by norm_num) (by norm_num)
    (by norm_num) log_Gamma_seven_halves_mem _ h1⟩

end MV.Special
