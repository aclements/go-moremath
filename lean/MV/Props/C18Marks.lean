import Mathlib.Tactic
import MV.Model.Graph
import MV.Props.C18Reach
/-!
# C18 — NodeMarks: the bit-level model refines the set-of-naturals specification

`mark`/`unmark` change one bit of one word (`wbit_set`), `next` finds the least set bit after an
index (`FirstFrom`), and a run of the bit-level model agrees with the run of the list specification
as long as every marked index is `< 2^69` (`runMarks_eq_runSet_partial`); at `2^69` it does not.
The array facts (`getD_setIfInBounds`, `getD_replicate`, `getD_of_size_le`) come from C18Reach.
-/
namespace MV.Graph

/-! ## abstraction and invariant -/

/-- Abstraction function: `i` is a member of the set represented by `m`. -/
def Marks.mem (m : Marks) (i : Nat) : Prop := m.test (i : Int) = true

/-- Well-formedness: every stored word is a 32-bit value. -/
def Marks.WF (m : Marks) : Prop := ∀ k, m.words.getD k 0 < 2 ^ 32

/-- bit `n` of a word array (word `n / 32`, bit `n % 32`), `false` out of range. -/
def wbit (ws : Array Nat) (n : Nat) : Bool := (ws.getD (n / 32) 0).testBit (n % 32)

/-- Side condition on operations: a `mark` index must be `< 2^69 = 32 * 2^64`
(the `grow` loop has 64 doublings of fuel). No condition on the other operations. -/
def MOp.small : MOp → Bool
  | .mark i => decide (i < 2 ^ 69)
  | _ => true

lemma test_natCast (m : Marks) (n : Nat) : m.test (n : Int) = wbit m.words n := by
  unfold Marks.test wbit
  have h0 : ¬ ((n : Int) < 0) := by omega
  simp only [h0, if_false, Int.toNat_natCast]
  split
  · rename_i h
    rw [getD_of_size_le _ _ _ h]; simp
  · rfl

lemma test_neg (m : Marks) (i : Int) (h : i < 0) : m.test i = false := by
  unfold Marks.test; simp [h]

lemma mem_iff_wbit (m : Marks) (n : Nat) : m.mem n ↔ wbit m.words n = true := by
  unfold Marks.mem; rw [test_natCast]

/-! ## growing the word array -/

lemma pow2ge_ge (n : Nat) : ∀ f k, n ≤ k * 2 ^ f → n ≤ pow2ge n f k := by
  intro f
  induction f with
  | zero => intro k h; simpa [pow2ge] using h
  | succ f ih =>
    intro k h
    rw [pow2ge]
    split
    · exact ih _ (by rwa [pow_succ', ← Nat.mul_assoc] at h)
    · exact not_lt.1 ‹_›

lemma grow_getD (m : Marks) (i k : Nat) : (m.grow i).words.getD k 0 = m.words.getD k 0 := by
  unfold Marks.grow
  simp only [Array.getD_eq_getD_getElem?, Array.getElem?_append, Array.getElem?_replicate]
  split
  · rfl
  · rename_i h
    have : m.words[k]? = none := by simp; omega
    rw [this]; split <;> rfl

lemma grow_size (m : Marks) (i : Nat) (hi : i < 2 ^ 69) : i / 32 < (m.grow i).words.size := by
  unfold Marks.grow
  have h := pow2ge_ge (i / 32 + 1) 64 1 (by omega)
  simp only [Array.size_append, Array.size_replicate]
  omega

/-! ## `mark` and `unmark` change one bit of one word -/

/-- inside one word, the bit positions tell the indices apart -/
lemma mod_eq_iff_of_div_eq {n i j : Nat} (h : j / n = i / n) : j % n = i % n ↔ j = i :=
  ⟨fun h2 => by rw [← Nat.div_add_mod j n, h, h2, Nat.div_add_mod], fun e => e ▸ rfl⟩

/-- writing to word `i / 32` a value that differs from the old word at bit `i % 32` only -/
lemma wbit_set (ws : Array Nat) (i j w' : Nat) (b : Bool) (hq : i / 32 < ws.size)
    (hw : ∀ c, w'.testBit c = if c = i % 32 then b else (ws.getD (i / 32) 0).testBit c) :
    wbit (ws.setIfInBounds (i / 32) w') j = if j = i then b else wbit ws j := by
  unfold wbit
  rw [getD_setIfInBounds_of_lt _ _ _ _ hq]
  by_cases h : j / 32 = i / 32
  · rw [if_pos h, hw, h]
    exact if_congr (mod_eq_iff_of_div_eq h) rfl rfl
  · rw [if_neg h, if_neg fun e : j = i => h (by rw [e])]

lemma testBit_or_bit (w b c : Nat) :
    (w ||| 1 <<< b).testBit c = if c = b then true else w.testBit c := by
  rw [Nat.testBit_or, Nat.one_shiftLeft, Nat.testBit_two_pow]
  split_ifs with h
  · rw [decide_eq_true h.symm, Bool.or_true]
  · rw [decide_eq_false (Ne.symm h), Bool.or_false]

lemma testBit_sub_two_pow (w b c : Nat) (h : w.testBit b = true) :
    (w - 2 ^ b).testBit c = if c = b then false else w.testBit c := by
  have h1 : w / 2 ^ b % 2 = 1 := by
    rw [Nat.testBit_eq_decide_div_mod_eq] at h; simpa using h
  have h2 : w % 2 ^ (b + 1) = w % 2 ^ b + 2 ^ b := by
    rw [Nat.mod_pow_succ, h1, Nat.mul_one]
  have h3 : 2 ^ (b + 1) * (w / 2 ^ (b + 1)) + w % 2 ^ (b + 1) = w := Nat.div_add_mod _ _
  have h4 : w - 2 ^ b = 2 ^ (b + 1) * (w / 2 ^ (b + 1)) + w % 2 ^ b := by
    generalize 2 ^ (b + 1) * (w / 2 ^ (b + 1)) = A at *
    omega
  have hlt : w % 2 ^ b < 2 ^ (b + 1) :=
    (Nat.mod_lt w (Nat.two_pow_pos b)).trans (Nat.pow_lt_pow_right (by norm_num) (Nat.lt_succ_self b))
  rw [h4, Nat.testBit_two_pow_mul_add _ hlt, Nat.testBit_mod_two_pow, Nat.testBit_div_two_pow]
  split_ifs with hc hcb hcb
  · rw [hcb, decide_eq_false (lt_irrefl b), Bool.false_and]
  · rw [decide_eq_true (by omega), Bool.true_and]
  · omega
  · rw [Nat.sub_add_cancel (by omega)]

lemma testBit_clear_bit (w b c : Nat) :
    (if w.testBit b then w - 1 <<< b else w).testBit c = if c = b then false else w.testBit c := by
  rw [Nat.one_shiftLeft]
  split_ifs with hb hc hc
  · rw [testBit_sub_two_pow w b c hb, if_pos hc]
  · rw [testBit_sub_two_pow w b c hb, if_neg hc]
  · rw [hc]; exact Bool.eq_false_iff.2 hb
  · rfl

/-- `mark` writes one word of the (possibly grown) array; growing adds zero words only -/
lemma mark_words (m : Marks) (i : Nat) : ∃ ws' : Array Nat,
    (m.mark i).words = ws'.setIfInBounds (i / 32) (ws'.getD (i / 32) 0 ||| 1 <<< (i % 32)) ∧
    (∀ k, ws'.getD k 0 = m.words.getD k 0) ∧ (i < 2 ^ 69 → i / 32 < ws'.size) := by
  unfold Marks.mark
  split
  · exact ⟨_, rfl, grow_getD m i, grow_size m i⟩
  · exact ⟨_, rfl, fun _ => rfl, fun _ => by omega⟩

lemma wbit_mark (m : Marks) (i j : Nat) (hi : i < 2 ^ 69) :
    wbit (m.mark i).words j = if j = i then true else wbit m.words j := by
  obtain ⟨ws', e, h1, h2⟩ := mark_words m i
  rw [e, wbit_set ws' i j _ true (h2 hi) (testBit_or_bit _ _), wbit, h1]
  rfl

lemma wbit_unmark (m : Marks) (i j : Nat) :
    wbit (m.unmark i).words j = if j = i then false else wbit m.words j := by
  unfold Marks.unmark
  split
  · rename_i h
    split_ifs with e
    · rw [e, wbit, getD_of_size_le _ _ _ h, Nat.zero_testBit]
    · rfl
  · exact wbit_set m.words i j _ false (by omega) (testBit_clear_bit _ _)

lemma new_getD (k : Nat) : Marks.new.words.getD k 0 = 0 := getD_replicate 32 k 0

lemma mark_WF (m : Marks) (i : Nat) (h : m.WF) : (m.mark i).WF := by
  intro k
  obtain ⟨ws', e, h1, -⟩ := mark_words m i
  rw [e, getD_setIfInBounds]
  split
  · apply Nat.or_lt_two_pow (h1 _ ▸ h _)
    rw [Nat.one_shiftLeft]
    exact Nat.pow_lt_pow_right (by norm_num) (Nat.mod_lt _ (by norm_num))
  · exact h1 k ▸ h k

/-! ## `next`: the lowest set bit of a word, the scan over the words -/

lemma lt_of_testBit {n : Nat} (w : Nat) (h : w < 2 ^ n) (c : Nat) (hc : w.testBit c = true) : c < n := by
  by_contra hge
  have : w < 2 ^ c := lt_of_lt_of_le h (Nat.pow_le_pow_right (by norm_num) (by omega))
  rw [Nat.testBit_lt_two_pow this] at hc
  exact absurd hc (by simp)

lemma lowBit_least (w : Nat) : ∀ f k, (∃ c, k ≤ c ∧ c < k + f ∧ w.testBit c = true) →
    w.testBit (lowBit w f k) = true ∧ k ≤ lowBit w f k ∧
      ∀ c, k ≤ c → w.testBit c = true → lowBit w f k ≤ c := by
  intro f
  induction f with
  | zero => rintro k ⟨c, h1, h2, _⟩; omega
  | succ f ih =>
    rintro k ⟨c, h1, h2, h3⟩
    unfold lowBit
    split
    · rename_i hk
      exact ⟨hk, le_refl _, fun c hc _ => hc⟩
    · rename_i hk
      have hck : c ≠ k := by intro e; subst e; exact hk h3
      obtain ⟨a1, a2, a3⟩ := ih (k + 1) ⟨c, by omega, by omega, h3⟩
      refine ⟨a1, by omega, fun c' hc' ht => ?_⟩
      have : c' ≠ k := by intro e; subst e; exact hk ht
      exact a3 c' (by omega) ht

lemma lowBit_word (b : Nat) (hb : b ≠ 0) (hlt : b < 2 ^ 32) :
    b.testBit (lowBit b 32 0) = true ∧ ∀ c, b.testBit c = true → lowBit b 32 0 ≤ c := by
  obtain ⟨c, hc⟩ := Nat.exists_testBit_of_ne_zero hb
  have := lt_of_testBit b hlt c hc
  obtain ⟨a1, _, a3⟩ := lowBit_least b 32 0 ⟨c, by omega, by omega, hc⟩
  exact ⟨a1, fun c hc => a3 c (Nat.zero_le _) hc⟩

/-- `r` is the least index `≥ lo` whose bit is set. -/
def IsLeastFrom (ws : Array Nat) (lo r : Nat) : Prop :=
  wbit ws r = true ∧ lo ≤ r ∧ ∀ c, lo ≤ c → wbit ws c = true → r ≤ c

/-- `x` is the answer to "first set bit at or after `lo`", `-1` standing for none -/
def FirstFrom (ws : Array Nat) (lo : Nat) (x : Int) : Prop :=
  (x = -1 ∧ ∀ c, lo ≤ c → wbit ws c = false) ∨ ∃ r : Nat, x = (r : Int) ∧ IsLeastFrom ws lo r

lemma FirstFrom.of_le {ws : Array Nat} {lo lo' : Nat} {x : Int} (hle : lo ≤ lo')
    (hz : ∀ c, lo ≤ c → c < lo' → wbit ws c = false) (h : FirstFrom ws lo' x) :
    FirstFrom ws lo x := by
  have hz' : ∀ c, lo ≤ c → wbit ws c = true → lo' ≤ c := by
    intro c hc ht
    by_contra hlt
    rw [hz c hc (not_le.1 hlt)] at ht
    exact Bool.false_ne_true ht
  rcases h with ⟨e, hall⟩ | ⟨r, e, hr1, hr2, hr3⟩
  · refine Or.inl ⟨e, fun c hc => ?_⟩
    by_cases hlt : c < lo'
    · exact hz c hc hlt
    · exact hall c (not_lt.1 hlt)
  · exact Or.inr ⟨r, e, hr1, hle.trans hr2, fun c hc ht => hr3 c (hz' c hc ht) ht⟩

lemma FirstFrom.of_size_le {ws : Array Nat} {lo : Nat} (h : ws.size ≤ lo / 32) : FirstFrom ws lo (-1) := by
  refine Or.inl ⟨rfl, fun c hc => ?_⟩
  unfold wbit
  rw [getD_of_size_le _ _ _ (h.trans (Nat.div_le_div_right hc)), Nat.zero_testBit]

lemma wbit_mul_add (ws : Array Nat) (q p : Nat) (hp : p < 32) :
    wbit ws (32 * q + p) = (ws.getD q 0).testBit p := by
  unfold wbit
  rw [Nat.mul_add_div (by norm_num), Nat.div_eq_of_lt hp, Nat.add_zero, Nat.mul_add_mod,
    Nat.mod_eq_of_lt hp]

/-- the search inside one word, from bit `p` of word `q`: the lowest set bit of the shifted word
is the answer; if the shifted word is zero the rest of the word has no set bit -/
lemma word_first (m : Marks) (hwf : m.WF) (j q p : Nat)
    (hj : j = 32 * q + p) :
    (m.words.getD q 0 >>> p ≠ 0 → IsLeastFrom m.words j (j + lowBit (m.words.getD q 0 >>> p) 32 0)) ∧
    (m.words.getD q 0 >>> p = 0 → ∀ c, j ≤ c → c < 32 * (q + 1) → wbit m.words c = false) := by
  subst hj
  have hbit : ∀ d, p + d < 32 → wbit m.words (32 * q + p + d) = (m.words.getD q 0 >>> p).testBit d := by
    intro d hd
    rw [Nat.add_assoc, wbit_mul_add m.words q (p + d) hd, Nat.testBit_shiftRight]
  constructor
  · intro hb
    obtain ⟨l1, l2⟩ := lowBit_word _ hb (lt_of_le_of_lt (Nat.shiftRight_le _ _) (hwf q))
    have l3 : p + lowBit (m.words.getD q 0 >>> p) 32 0 < 32 :=
      lt_of_testBit _ (hwf q) _ (by rw [← Nat.testBit_shiftRight]; exact l1)
    refine ⟨by rw [hbit _ l3]; exact l1, Nat.le_add_right _ _, fun c hc ht => ?_⟩
    obtain ⟨d, rfl⟩ := Nat.exists_eq_add_of_le hc
    by_cases hd : p + d < 32
    · rw [hbit d hd] at ht
      exact Nat.add_le_add_left (l2 d ht) _
    · omega
  · intro hb c h1 h2
    obtain ⟨d, rfl⟩ := Nat.exists_eq_add_of_le h1
    rw [hbit d (by omega), hb, Nat.zero_testBit]

lemma scanWords_firstFrom (m : Marks) (hwf : m.WF) :
    ∀ f bi, m.words.size ≤ bi + f → FirstFrom m.words (32 * bi) (scanWords m.words f bi) := by
  intro f
  induction f with
  | zero =>
    intro bi h
    exact FirstFrom.of_size_le (by rw [Nat.mul_div_cancel_left _ (by norm_num)]; exact h)
  | succ f ih =>
    intro bi h
    unfold scanWords
    split
    · rename_i hge
      exact FirstFrom.of_size_le (by rw [Nat.mul_div_cancel_left _ (by norm_num)]; exact hge)
    · obtain ⟨w1, w2⟩ := word_first m hwf (32 * bi) bi 0 rfl
      simp only
      split
      · rename_i hb
        exact Or.inr ⟨_, rfl, w1 hb⟩
      · rename_i hb
        exact (ih (bi + 1) (by omega)).of_le (by omega) (w2 (not_not.1 hb))

/-- the body of `Marks.next` after the start index `j` has been computed -/
def nextFrom (ws : Array Nat) (j : Nat) : Int :=
  if j / 32 ≥ ws.size then -1
  else
    let b0 := (ws.getD (j / 32) 0) >>> (j % 32)
    if b0 ≠ 0 then ((j + lowBit b0 32 0 : Nat) : Int)
    else scanWords ws ws.size (j / 32 + 1)

lemma next_eq_nextFrom (m : Marks) (i : Int) :
    m.next i = nextFrom m.words (if i + 1 < 0 then 0 else (i + 1).toNat) := rfl

lemma nextFrom_firstFrom (m : Marks) (hwf : m.WF) (j : Nat) :
    FirstFrom m.words j (nextFrom m.words j) := by
  unfold nextFrom
  split
  · rename_i hge
    exact FirstFrom.of_size_le hge
  · obtain ⟨w1, w2⟩ := word_first m hwf j (j / 32) (j % 32) (Nat.div_add_mod j 32).symm
    simp only
    split
    · rename_i hb
      exact Or.inr ⟨_, rfl, w1 hb⟩
    · rename_i hb
      exact (scanWords_firstFrom m hwf m.words.size (j / 32 + 1) (by omega)).of_le
        (Nat.lt_mul_div_succ j (by norm_num)).le (w2 (not_not.1 hb))

lemma pow2ge_le (n : Nat) : ∀ f k, pow2ge n f k ≤ k * 2 ^ f := by
  intro f
  induction f with
  | zero => intro k; simp [pow2ge]
  | succ f ih =>
    intro k
    rw [pow2ge, pow_succ', ← Nat.mul_assoc]
    split
    · exact ih (k * 2)
    · exact (Nat.le_mul_of_pos_right k (by norm_num)).trans
        (Nat.le_mul_of_pos_right _ (Nat.two_pow_pos f))

/-! ## the `next` of the list specification -/

def setNext (s : List Nat) (i : Int) : Int :=
  match s.filter (fun (x : Nat) => decide ((x : Int) > i)) with
  | [] => -1
  | c :: cs => ((cs.foldl Nat.min c : Nat) : Int)

lemma foldl_min_least : ∀ (cs : List Nat) (c : Nat),
    cs.foldl Nat.min c ∈ c :: cs ∧ ∀ x ∈ c :: cs, cs.foldl Nat.min c ≤ x := by
  intro cs
  induction cs with
  | nil => intro c; simp
  | cons d cs ih =>
    intro c
    have := ih (Nat.min c d)
    simp only [List.foldl_cons, List.mem_cons, forall_eq_or_imp] at this ⊢
    obtain ⟨h1, h2, h3⟩ := this
    refine ⟨?_, h2.trans (Nat.min_le_left c d), h2.trans (Nat.min_le_right c d), h3⟩
    rcases h1 with e | e
    · rcases Nat.le_total c d with h | h
      · exact Or.inl (e.trans (Nat.min_eq_left h))
      · exact Or.inr (Or.inl (e.trans (Nat.min_eq_right h)))
    · exact Or.inr (Or.inr e)

lemma setNext_least (s : List Nat) (i : Int) :
    (setNext s i = -1 ∧ ∀ j ∈ s, ¬ (i < (j : Int))) ∨
    ∃ j : Nat, setNext s i = (j : Int) ∧ j ∈ s ∧ i < (j : Int) ∧
      ∀ k ∈ s, i < (k : Int) → j ≤ k := by
  unfold setNext
  have hmem : ∀ x, x ∈ s.filter (fun (x : Nat) => decide ((x : Int) > i)) ↔ x ∈ s ∧ i < (x : Int) := by
    intro x; simp [List.mem_filter]
  generalize s.filter (fun (x : Nat) => decide ((x : Int) > i)) = l at hmem
  cases l with
  | nil =>
    left
    refine ⟨rfl, fun j hj hlt => ?_⟩
    have := (hmem j).2 ⟨hj, hlt⟩
    simp at this
  | cons c cs =>
    right
    obtain ⟨h1, h2⟩ := foldl_min_least cs c
    obtain ⟨a, b⟩ := (hmem _).1 h1
    exact ⟨_, rfl, a, b, fun k hk hlt => h2 k ((hmem k).2 ⟨hk, hlt⟩)⟩

/-! ## per-operation refinement facts -/

/-- The fresh mark set is empty: no natural number is a member of `Marks.new`. -/
theorem mem_new (j : Nat) : Marks.new.mem j ↔ False := by
  rw [mem_iff_wbit, wbit, new_getD, Nat.zero_testBit]
  exact iff_of_false Bool.false_ne_true id

/-- After `mark i` (with `i < 2^69`, so that the grow loop does not run out of fuel) the
members are exactly `i` and the old members. Needs no well-formedness assumption. -/
theorem mem_mark (m : Marks) (i j : Nat) (hi : i < 2 ^ 69) :
    (m.mark i).mem j ↔ j = i ∨ m.mem j := by
  rw [mem_iff_wbit, mem_iff_wbit, wbit_mark m i j hi]
  split_ifs with h <;> simp [h]

/-- After `unmark i` (any `i`) the members are exactly the old members other than `i`. -/
theorem mem_unmark (m : Marks) (i j : Nat) :
    (m.unmark i).mem j ↔ j ≠ i ∧ m.mem j := by
  rw [mem_iff_wbit, mem_iff_wbit, wbit_unmark m i j]
  split_ifs with h <;> simp [h]

/-- `Marks.new` is well-formed (all words are 32-bit values). -/
theorem wf_new : Marks.new.WF := fun k => by rw [new_getD]; exact Nat.two_pow_pos 32

/-- `mark i` preserves well-formedness (for every `i`: `mark_WF`; the bound is not needed). -/
theorem wf_mark (m : Marks) (i : Nat) (hi : i < 2 ^ 69) (h : m.WF) : (m.mark i).WF :=
  mark_WF m i h

/-- `unmark i` preserves well-formedness. -/
theorem wf_unmark (m : Marks) (i : Nat) (h : m.WF) : (m.unmark i).WF := by
  intro k
  unfold Marks.unmark
  split
  · exact h k
  · rw [getD_setIfInBounds]
    split_ifs
    · exact lt_of_le_of_lt (Nat.sub_le _ _) (h _)
    · exact h _
    · exact h k

/-- On a well-formed mark set and for ANY integer `i` (negative included), `next i` is `-1`
exactly when no member is `> i`, and otherwise it is the least member `> i`. -/
theorem next_spec (m : Marks) (h : m.WF) (i : Int) :
    (m.next i = -1 ∧ ∀ j : Nat, m.mem j → ¬ (i < (j : Int))) ∨
    ∃ j : Nat, m.next i = (j : Int) ∧ m.mem j ∧ i < (j : Int) ∧
      ∀ k : Nat, m.mem k → i < (k : Int) → j ≤ k := by
  rw [next_eq_nextFrom]
  have hJ : ∀ c : Nat, i < (c : Int) ↔ (if i + 1 < 0 then 0 else (i + 1).toNat) ≤ c := by
    intro c; split <;> omega
  generalize (if i + 1 < 0 then 0 else (i + 1).toNat) = J at hJ
  rcases nextFrom_firstFrom m h J with ⟨e, hall⟩ | ⟨r, e, hr1, hr2, hr3⟩
  · left
    refine ⟨e, fun j hj hlt => ?_⟩
    have := hall j ((hJ j).1 hlt)
    rw [mem_iff_wbit, this] at hj; simp at hj
  · right
    refine ⟨r, e, (mem_iff_wbit _ _).2 hr1, (hJ r).2 hr2, fun k hk hlt => ?_⟩
    exact hr3 k ((hJ k).1 hlt) ((mem_iff_wbit _ _).1 hk)

/-- `test` at a negative index is `false`; at a natural index it is membership. -/
theorem test_spec (m : Marks) (i : Int) :
    m.test i = true ↔ ∃ n : Nat, i = (n : Int) ∧ m.mem n := by
  constructor
  · intro h
    by_cases hneg : i < 0
    · rw [test_neg m i hneg] at h; simp at h
    · obtain ⟨n, rfl⟩ := Int.eq_ofNat_of_zero_le (by omega : 0 ≤ i)
      exact ⟨n, rfl, h⟩
  · rintro ⟨n, rfl, h⟩; exact h

/-! ## the refinement theorem -/

lemma next_eq_setNext (m : Marks) (s : List Nat) (h : m.WF) (inv : ∀ j, j ∈ s ↔ m.mem j)
    (i : Int) : m.next i = setNext s i := by
  rcases next_spec m h i with ⟨e, a⟩ | ⟨j, e, a1, a2, a3⟩ <;>
    rcases setNext_least s i with ⟨e', b⟩ | ⟨j', e', b1, b2, b3⟩
  · rw [e, e']
  · exact absurd b2 (a j' ((inv _).1 b1))
  · exact absurd a2 (b j ((inv _).2 a1))
  · rw [e, e']
    have h1 := a3 j' ((inv _).1 b1) b2
    have h2 := b3 j ((inv _).2 a1) a2
    have : j = j' := by omega
    rw [this]

lemma test_eq_contains (m : Marks) (s : List Nat) (inv : ∀ j, j ∈ s ↔ m.mem j) (i : Int) :
    m.test i = (decide (i ≥ 0) && s.contains i.toNat) := by
  by_cases hneg : i < 0
  · rw [test_neg m i hneg, decide_eq_false (not_le.2 hneg), Bool.false_and]
  · obtain ⟨n, rfl⟩ := Int.eq_ofNat_of_zero_le (not_lt.1 hneg)
    rw [decide_eq_true (not_lt.1 hneg), Bool.true_and, Int.toNat_natCast, Bool.eq_iff_iff,
      List.contains_iff_mem, inv n]
    rfl

/-- membership in the specification's set after `mark i` -/
lemma mem_ite_cons (s : List Nat) (i j : Nat) :
    j ∈ (if s.contains i then s else i :: s) ↔ j = i ∨ j ∈ s := by
  split_ifs with h
  · exact ⟨Or.inr, fun h' => h'.elim (fun e => e ▸ List.contains_iff_mem.1 h) id⟩
  · exact List.mem_cons

lemma runMarks_go_eq_runSet_go (ops : List MOp) : ∀ (m : Marks) (s : List Nat) (acc : List Int),
    m.WF → (∀ j, j ∈ s ↔ m.mem j) → (∀ op ∈ ops, MOp.small op = true) →
    runMarks.go m ops acc = runSet.go s ops acc := by
  induction ops with
  | nil => intro m s acc _ _ _; rfl
  | cons op r ih =>
    intro m s acc hwf inv hs
    have hs' : ∀ op ∈ r, MOp.small op = true := fun o ho => hs o (List.mem_cons_of_mem _ ho)
    cases op with
    | mark i =>
      have hi : i < 2 ^ 69 := by
        have := hs (.mark i) (by simp)
        simpa [MOp.small] using this
      refine ih (m.mark i) _ _ (mark_WF m i hwf) ?_ hs'
      intro j
      rw [mem_mark m i j hi, mem_ite_cons, inv j]
    | unmark i =>
      refine ih (m.unmark i) _ _ (wf_unmark m i hwf) ?_ hs'
      intro j
      rw [mem_unmark m i j, ← inv j]
      simp [List.mem_filter, and_comm]
    | test i =>
      simp only [runMarks.go, runSet.go]
      rw [test_eq_contains m s inv i]
      exact ih _ _ _ hwf inv hs'
    | next i =>
      simp only [runMarks.go, runSet.go]
      rw [next_eq_setNext m s hwf inv i]
      exact ih _ _ _ hwf inv hs'

/-- Refinement: for every history in which every `mark` index is `< 2^69` (= 32 * 2^64; the
arguments of `unmark`, `test`, `next` are arbitrary, negative or huge included), the bit-level model
and the set specification produce the same outputs.  The bound is sharp: `pow2ge` has 64 doublings
of fuel, so `grow` yields at most `2^64` words and a `mark i` with `i ≥ 2^69` changes nothing
(`test_mark_large`); followed by `test i` it disagrees with the specification after any history
(`runMarks_ne_runSet_of_large_mark`). -/
theorem runMarks_eq_runSet_partial (ops : List MOp) (h : ops.all MOp.small = true) :
    runMarks ops = runSet ops := by
  unfold runMarks runSet
  apply runMarks_go_eq_runSet_go ops _ _ _ wf_new
  · intro j; rw [mem_new]; simp
  · intro op hop; exact (List.all_eq_true.1 h) op hop

example :
    runMarks [.mark 5, .mark 70, .mark 5, .next (-3), .next 5, .test 70, .unmark 70, .next 5,
      .test (-1), .mark 4000, .next 70, .unmark (2 ^ 80), .test (2 ^ 80)] =
    runSet [.mark 5, .mark 70, .mark 5, .next (-3), .next 5, .test 70, .unmark 70, .next 5,
      .test (-1), .mark 4000, .next 70, .unmark (2 ^ 80), .test (2 ^ 80)] :=
  runMarks_eq_runSet_partial _ (by decide)

/-! ## the bound is sharp: marks at indices `≥ 2^69` are lost -/

lemma mark_size_le (m : Marks) (i : Nat) (hm : m.words.size ≤ 2 ^ 64) :
    (m.mark i).words.size ≤ 2 ^ 64 := by
  unfold Marks.mark
  simp only [Array.size_setIfInBounds]
  split
  · unfold Marks.grow
    have := pow2ge_le (i / 32 + 1) 64 1
    simp only [Array.size_append, Array.size_replicate]
    omega
  · exact hm

/-- Fuel exhaustion is observable: if the word array has at most `2^64` words (always true for
states reachable from `Marks.new`) and `i ≥ 2^69`, then `mark i` does NOT make `i` a member. -/
theorem test_mark_large (m : Marks) (hm : m.words.size ≤ 2 ^ 64) (i : Nat) (hi : 2 ^ 69 ≤ i) :
    (m.mark i).test (i : Int) = false := by
  have hsz := mark_size_le m i hm
  unfold Marks.test
  have h0 : ¬ ((i : Int) < 0) := by omega
  simp only [h0, if_false, Int.toNat_natCast]
  have : i / 32 ≥ (m.mark i).words.size := by omega
  simp [this]

/-- At the bound the refinement fails: the history
`[mark 2^69, test 2^69]` outputs `[0]` on the bit-level model and `[1]` on the specification. -/
theorem runMarks_ne_runSet_large :
    runMarks [.mark (2 ^ 69), .test (2 ^ 69)] = [0] ∧
    runSet [.mark (2 ^ 69), .test (2 ^ 69)] = [1] := by
  constructor
  · simp only [runMarks, runMarks.go]
    have h := test_mark_large Marks.new (by simp [Marks.new]) (2 ^ 69) (le_refl _)
    have e : ((2 ^ 69 : Nat) : Int) = 2 ^ 69 := by norm_num
    rw [e] at h
    rw [h]; rfl
  · decide

lemma unmark_size (m : Marks) (i : Nat) : (m.unmark i).words.size = m.words.size := by
  unfold Marks.unmark
  split
  · rfl
  · simp only [Array.size_setIfInBounds]

lemma runMarks_go_append (rest : List MOp) : ∀ (pre : List MOp) (m : Marks) (acc : List Int),
    m.words.size ≤ 2 ^ 64 →
    ∃ m' acc', m'.words.size ≤ 2 ^ 64 ∧
      runMarks.go m (pre ++ rest) acc = runMarks.go m' rest acc' := by
  intro pre
  induction pre with
  | nil => intro m acc h; exact ⟨m, acc, h, rfl⟩
  | cons op r ih =>
    intro m acc h
    cases op with
    | mark i => exact ih _ _ (mark_size_le m i h)
    | unmark i => exact ih _ _ ((unmark_size m i).trans_le h)
    | test i => exact ih _ _ h
    | next i => exact ih _ _ h

lemma runSet_go_append (rest : List MOp) : ∀ (pre : List MOp) (s : List Nat) (acc : List Int),
    ∃ s' acc', runSet.go s (pre ++ rest) acc = runSet.go s' rest acc' := by
  intro pre
  induction pre with
  | nil => intro s acc; exact ⟨s, acc, rfl⟩
  | cons op r ih =>
    intro s acc
    cases op <;> exact ih _ _

/-- The hypothesis of `runMarks_eq_runSet_partial` cannot be weakened per operation: after ANY
history `pre`, marking an index `i ≥ 2^69` and then testing it makes the bit-level model and the
specification disagree (the model answers 0, the specification 1). -/
theorem runMarks_ne_runSet_of_large_mark (pre : List MOp) (i : Nat) (hi : 2 ^ 69 ≤ i) :
    runMarks (pre ++ [.mark i, .test (i : Int)]) ≠ runSet (pre ++ [.mark i, .test (i : Int)]) := by
  obtain ⟨m', acc', hsz, e1⟩ :=
    runMarks_go_append [.mark i, .test (i : Int)] pre Marks.new [] (by simp [Marks.new])
  obtain ⟨s', acc'', e2⟩ := runSet_go_append [.mark i, .test (i : Int)] pre [] []
  unfold runMarks runSet
  rw [e1, e2]
  simp only [runMarks.go, runSet.go]
  rw [test_mark_large m' hsz i hi]
  have hset : (decide ((i : Int) ≥ 0) &&
      (if s'.contains i then s' else i :: s').contains (i : Int).toNat) = true := by
    rw [decide_eq_true (Int.natCast_nonneg i), Bool.true_and, Int.toNat_natCast,
      List.contains_iff_mem, mem_ite_cons]
    exact Or.inl rfl
  rw [hset]
  intro h
  have := congrArg List.getLast? h
  simp at this

example : runMarks ([.mark 3, .next 0] ++ [.mark (2 ^ 70), .test ((2 ^ 70 : Nat) : Int)]) ≠
    runSet ([.mark 3, .next 0] ++ [.mark (2 ^ 70), .test ((2 ^ 70 : Nat) : Int)]) :=
  runMarks_ne_runSet_of_large_mark _ _ (by norm_num)

/-! ## concrete instances -/

example : (Marks.new.mark 70).mem 70 := (mem_mark _ 70 70 (by norm_num)).2 (Or.inl rfl)
example : ¬ ((Marks.new.mark 70).unmark 70).mem 70 := fun h => ((mem_unmark _ 70 70).1 h).1 rfl
example : ((Marks.new.mark 70).mark 5).WF :=
  wf_mark _ 5 (by norm_num) (wf_mark _ 70 (by norm_num) wf_new)
example : ((Marks.new.mark 70).mark 5).next 5 = 70 := by decide +kernel
example : ((Marks.new.mark 70).mark 5).next (-9) = 5 := by decide +kernel
example : ((Marks.new.mark 70).mark 5).next 70 = -1 := by decide +kernel
example :
    runSet [.mark 5, .mark 70, .mark 5, .next (-3), .next 5, .test 70, .unmark 70, .next 5,
      .test (-1), .mark 4000, .next 70, .unmark (2 ^ 80), .test (2 ^ 80)] =
    [5, 70, 1, -1, 0, 4000, 0] := by decide +kernel
example :
    runMarks [.mark 5, .mark 70, .mark 5, .next (-3), .next 5, .test 70, .unmark 70, .next 5,
      .test (-1), .mark 4000, .next 70, .unmark (2 ^ 80), .test (2 ^ 80)] =
    [5, 70, 1, -1, 0, 4000, 0] :=
  (runMarks_eq_runSet_partial _ (by decide)).trans (by decide)
example : [MOp.mark 5, .mark (2 ^ 69 - 1), .unmark (2 ^ 100), .test (-7), .next (2 ^ 90)].all
    MOp.small = true := by decide

end MV.Graph
