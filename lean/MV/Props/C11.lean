import Mathlib.Tactic
import MV.Model.QCI
import MV.Props.C06
/-!
# C11 — greedy quantile confidence interval (exact rational model)

`R := qci n q c`.  We prove: ordering/bounds of the interval (G1), the reported confidence is
exactly the binomial mass of the interval (G2), it reaches the requested confidence unless the
interval is the whole range (G3), it contains the mode `startBucket` which is a true mode (G4),
the last bucket added was needed (G5), nesting in `c` (G6) and the meaning of the `amb` flag (G7).

All results hold for every `n`, `n = 0` included.
-/
namespace MV.QCI
open MV.Discrete Finset

lemma mass_eq_sum (n : Nat) (q : ℚ) (l r : Int) :
    mass n q l r = ∑ i ∈ range (r - l).toNat, binomPMF n q (l + (i : Int)) := by
  unfold mass
  exact foldl_add_eq_sum (fun i : Nat => binomPMF n q (l + (i : Int))) _

lemma mass_self (n : Nat) (q : ℚ) (l : Int) : mass n q l l = 0 := by
  rw [mass_eq_sum]; simp

lemma mass_succ_right (n : Nat) (q : ℚ) (l r : Int) (h : l ≤ r) :
    mass n q l (r + 1) = mass n q l r + binomPMF n q r := by
  rw [mass_eq_sum, mass_eq_sum]
  have e : (r + 1 - l).toNat = (r - l).toNat + 1 := by omega
  rw [e, sum_range_succ]
  have e2 : l + (((r - l).toNat : Nat) : Int) = r := by omega
  rw [e2]

lemma mass_pred_left (n : Nat) (q : ℚ) (l r : Int) (h : l ≤ r) :
    mass n q (l - 1) r = binomPMF n q (l - 1) + mass n q l r := by
  rw [mass_eq_sum, mass_eq_sum]
  have e : (r - (l - 1)).toNat = (r - l).toNat + 1 := by omega
  rw [e, sum_range_succ', add_comm]
  congr 1
  · simp
  · apply sum_congr rfl
    intro i _
    congr 1
    push_cast
    ring

lemma mass_single (n : Nat) (q : ℚ) (x : Int) : mass n q x (x + 1) = binomPMF n q x := by
  rw [mass_succ_right n q x x le_rfl, mass_self, zero_add]

lemma mass_shift (n : Nat) (q : ℚ) (l r : Int) (h : l ≤ r) :
    mass n q (l + 1) (r + 1) = mass n q l r - binomPMF n q l + binomPMF n q r := by
  have h1 := mass_succ_right n q l r h
  have h2 := mass_pred_left n q (l + 1) (r + 1) (by omega)
  rw [show l + 1 - 1 = l by ring] at h2
  linarith

lemma mass_full (n : Nat) (q : ℚ) : mass n q 0 ((n : Int) + 1) = 1 := by
  rw [mass_eq_sum]
  have e : ((n : Int) + 1 - 0).toNat = n + 1 := by omega
  rw [e, ← binomPMF_sum n q]
  apply sum_congr rfl
  intro i _
  rw [zero_add]

/-! ## the loop -/

lemma loop_succ (n : Nat) (q c : ℚ) (f : Nat) (l r : Int) (acc : ℚ) (amb : Bool) :
    loop n q c (f + 1) l r acc amb =
      if acc < c ∧ (binomPMF n q (l - 1) > 0 ∨ binomPMF n q r > 0) then
        if binomPMF n q (l - 1) ≥ binomPMF n q r then
          loop n q c f (l - 1) r (acc + binomPMF n q (l - 1))
            (binomPMF n q (l - 1) == binomPMF n q r)
        else loop n q c f l (r + 1) (acc + binomPMF n q r)
            (binomPMF n q (l - 1) == binomPMF n q r)
      else (l, r, acc, amb) := rfl

/-- generic invariant principle for the greedy loop -/
lemma loop_induct (n : Nat) (q c : ℚ) (P : Int → Int → ℚ → Bool → Prop)
    (hL : ∀ l r acc amb, P l r acc amb → acc < c → binomPMF n q r ≤ binomPMF n q (l - 1) →
      0 < binomPMF n q (l - 1) →
      P (l - 1) r (acc + binomPMF n q (l - 1)) (binomPMF n q (l - 1) == binomPMF n q r))
    (hR : ∀ l r acc amb, P l r acc amb → acc < c → binomPMF n q (l - 1) < binomPMF n q r →
      0 < binomPMF n q r →
      P l (r + 1) (acc + binomPMF n q r) (binomPMF n q (l - 1) == binomPMF n q r)) :
    ∀ f l r acc amb, P l r acc amb →
      P (loop n q c f l r acc amb).1 (loop n q c f l r acc amb).2.1
        (loop n q c f l r acc amb).2.2.1 (loop n q c f l r acc amb).2.2.2 := by
  intro f
  induction f with
  | zero => intro l r acc amb h; exact h
  | succ f ih =>
    intro l r acc amb h
    rw [loop_succ]
    split_ifs with h1 h2
    · apply ih
      apply hL l r acc amb h h1.1 h2
      rcases h1.2 with h3 | h3
      · exact h3
      · exact lt_of_lt_of_le h3 h2
    · apply ih
      have h2' := not_le.1 h2
      apply hR l r acc amb h h1.1 h2'
      rcases h1.2 with h3 | h3
      · exact lt_trans h3 h2'
      · exact h3
    · exact h

/-- when the loop returns, either its guard is false or all the fuel was used, in which case
the interval grew by exactly `f` buckets -/
lemma loop_stop (n : Nat) (q c : ℚ) : ∀ (f : Nat) (l r : Int) (acc : ℚ) (amb : Bool),
    ¬ ((loop n q c f l r acc amb).2.2.1 < c ∧
        (0 < binomPMF n q ((loop n q c f l r acc amb).1 - 1) ∨
         0 < binomPMF n q (loop n q c f l r acc amb).2.1)) ∨
    (loop n q c f l r acc amb).2.1 - (loop n q c f l r acc amb).1 = r - l + (f : Int) := by
  intro f
  induction f with
  | zero => intro l r acc amb; right; show r - l = r - l + ((0 : Nat) : Int); simp
  | succ f ih =>
    intro l r acc amb
    rw [loop_succ]
    split_ifs with h1 h2
    · rcases ih (l - 1) r (acc + binomPMF n q (l - 1))
        (binomPMF n q (l - 1) == binomPMF n q r) with h | h
      · left; exact h
      · right; rw [h]; push_cast; ring
    · rcases ih l (r + 1) (acc + binomPMF n q r)
        (binomPMF n q (l - 1) == binomPMF n q r) with h | h
      · left; exact h
      · right; rw [h]; push_cast; ring
    · left; exact h1

lemma loop_expands (n : Nat) (q c : ℚ) (f : Nat) (l r : Int) (acc : ℚ) (amb : Bool) :
    (loop n q c f l r acc amb).1 ≤ l ∧ r ≤ (loop n q c f l r acc amb).2.1 := by
  refine loop_induct n q c (fun l' r' _ _ => l' ≤ l ∧ r ≤ r') ?_ ?_ f l r acc amb ⟨le_rfl, le_rfl⟩
  · intro l' r' _ _ h _ _ _
    obtain ⟨a, b⟩ := h
    exact ⟨by omega, b⟩
  · intro l' r' _ _ h _ _ _
    obtain ⟨a, b⟩ := h
    exact ⟨a, by omega⟩

/-- the chain of intervals does not depend on `c`; a larger `c` only stops later -/
lemma loop_mono (n : Nat) (q c c' : ℚ) (hc : c ≤ c') : ∀ (f : Nat) (l r : Int) (acc : ℚ)
    (amb : Bool),
    (loop n q c' f l r acc amb).1 ≤ (loop n q c f l r acc amb).1 ∧
    (loop n q c f l r acc amb).2.1 ≤ (loop n q c' f l r acc amb).2.1 := by
  intro f
  induction f with
  | zero => intro l r acc amb; exact ⟨le_rfl, le_rfl⟩
  | succ f ih =>
    intro l r acc amb
    by_cases h : acc < c ∧ (binomPMF n q (l - 1) > 0 ∨ binomPMF n q r > 0)
    · have h' : acc < c' ∧ (binomPMF n q (l - 1) > 0 ∨ binomPMF n q r > 0) :=
        ⟨lt_of_lt_of_le h.1 hc, h.2⟩
      rw [loop_succ n q c, loop_succ n q c', if_pos h, if_pos h']
      split_ifs with h2
      · exact ih _ _ _ _
      · exact ih _ _ _ _
    · rw [loop_succ n q c, if_neg h]
      exact loop_expands n q c' (f + 1) l r acc amb

/-! ## the start bucket -/

lemma startBucket_spec (n : Nat) (q : ℚ) :
    (∀ k : Int, 0 ≤ k → k + 1 ≤ startBucket n q → ((k : ℚ) + 1) < ((n : ℚ) + 1) * q) ∧
    (∀ k : Int, 0 ≤ k → startBucket n q ≤ k → ((n : ℚ) + 1) * q ≤ (k : ℚ) + 1) := by
  unfold startBucket
  split_ifs with h
  · have hq : q = 0 := by simpa using h
    subst hq
    constructor
    · intro k hk0 hk; omega
    · intro k hk0 _
      have : (0 : ℚ) ≤ (k : ℚ) := by exact_mod_cast hk0
      simp only [mul_zero]; linarith
  · constructor
    · intro k _ hk
      have h1 : k + 1 < (((n + 1 : Nat) : ℚ) * q).ceil := by omega
      have h2 := Rat.lt_ceil_iff.1 h1
      push_cast at h2
      exact h2
    · intro k _ hk
      have h1 : (((n + 1 : Nat) : ℚ) * q).ceil ≤ k + 1 := by omega
      have h2 := Rat.ceil_le_iff.1 h1
      push_cast at h2
      exact h2

lemma startBucket_bounds (n : Nat) (q : ℚ) (h0 : 0 ≤ q) (h1 : q ≤ 1) :
    0 ≤ startBucket n q ∧ startBucket n q ≤ n := by
  unfold startBucket
  split_ifs with h
  · exact ⟨le_rfl, Int.natCast_nonneg n⟩
  · have hq0 : 0 < q := h0.lt_of_ne' (by simpa using h)
    have hn : (0 : ℚ) < ((n + 1 : Nat) : ℚ) := Nat.cast_pos.2 n.succ_pos
    constructor
    · exact Int.le_sub_one_of_lt (Rat.lt_ceil_iff.2 (by rw [Int.cast_zero]; exact mul_pos hn hq0))
    · rw [sub_le_iff_le_add]
      exact Rat.ceil_le_iff.2 (by exact_mod_cast mul_le_of_le_one_right hn.le h1)

lemma pmf_ratio (n k : Nat) (q : ℚ) (hk : k < n) :
    binomPMF n q ((k : Int) + 1) * (((k : ℚ) + 1) * (1 - q))
      = binomPMF n q (k : Int) * (((n : ℚ) - k) * q) := by
  have hc : ((k : Int) + 1) = ((k + 1 : Nat) : Int) := by push_cast; rfl
  rw [hc, binomPMF_natCast, binomPMF_natCast]
  have h := Nat.choose_succ_right_eq n k
  have h' : (n.choose (k + 1) : ℚ) * ((k : ℚ) + 1) = n.choose k * ((n : ℚ) - k) := by
    have := congrArg (Nat.cast : Nat → ℚ) h
    push_cast [Nat.cast_sub hk.le] at this
    exact this
  have e : n - k = (n - (k + 1)) + 1 := by omega
  rw [e, pow_succ, pow_succ]
  linear_combination (q ^ k * q * (1 - q) ^ (n - (k + 1)) * (1 - q)) * h'

/-- comparing two values through a cross-multiplied ratio `x·X = y·Y` with `Y ≤ X` -/
lemma le_of_mul_eq_mul {x y X Y : ℚ} (h : x * X = y * Y) (hX : 0 < X) (hYX : Y ≤ X)
    (hy : 0 ≤ y) : x ≤ y :=
  le_of_mul_le_mul_right (h ▸ mul_le_mul_of_nonneg_left hYX hy) hX

lemma pmf_step_up (n : Nat) (q : ℚ) (h0 : 0 ≤ q) (h1 : q ≤ 1) (k : Int) (hk0 : 0 ≤ k)
    (hk : k + 1 ≤ startBucket n q) : binomPMF n q k ≤ binomPMF n q (k + 1) := by
  have hb := (startBucket_bounds n q h0 h1).2
  have hlt := (startBucket_spec n q).1 k hk0 hk
  obtain ⟨m, rfl⟩ := Int.eq_ofNat_of_zero_le hk0
  rw [Int.cast_natCast] at hlt
  have hA : 0 ≤ ((m : ℚ) + 1) * (1 - q) := mul_nonneg (by positivity) (sub_nonneg.2 h1)
  have hAB : ((m : ℚ) + 1) * (1 - q) < ((n : ℚ) - m) * q := by linarith
  exact le_of_mul_eq_mul (pmf_ratio n m q (by omega)).symm (hA.trans_lt hAB) hAB.le
    (binomPMF_nonneg n q h0 h1 _)

lemma pmf_step_down (n : Nat) (q : ℚ) (h0 : 0 ≤ q) (h1 : q ≤ 1) (k : Int)
    (hk : startBucket n q ≤ k) : binomPMF n q (k + 1) ≤ binomPMF n q k := by
  have hk0 : 0 ≤ k := (startBucket_bounds n q h0 h1).1.trans hk
  by_cases hkn : k < n
  · have hge := (startBucket_spec n q).2 k hk0 hk
    obtain ⟨m, rfl⟩ := Int.eq_ofNat_of_zero_le hk0
    rw [Int.cast_natCast] at hge
    have hmn' : (m : ℚ) + 1 ≤ n := by exact_mod_cast hkn
    -- `q = 1` would give `n + 1 ≤ m + 1`
    have hq1 : q < 1 := h1.lt_of_ne fun h => by rw [h] at hge; linarith
    exact le_of_mul_eq_mul (pmf_ratio n m q (by omega))
      (mul_pos (by positivity) (sub_pos.2 hq1)) (by linarith) (binomPMF_nonneg n q h0 h1 _)
  · rw [binomPMF_eq_zero n q (k + 1) (by omega)]
    exact binomPMF_nonneg n q h0 h1 k

lemma pmf_le_up (n : Nat) (q : ℚ) (h0 : 0 ≤ q) (h1 : q ≤ 1) :
    ∀ (d : Nat) (k : Int), 0 ≤ k → k + d ≤ startBucket n q →
      binomPMF n q k ≤ binomPMF n q (k + d) := by
  intro d
  induction d with
  | zero => intro k _ _; simp
  | succ d ih =>
    intro k hk0 hk
    push_cast at hk ⊢
    have := ih k hk0 (by omega)
    have h2 := pmf_step_up n q h0 h1 (k + d) (by omega) (by omega)
    rw [← add_assoc]
    exact le_trans this h2

lemma pmf_le_down (n : Nat) (q : ℚ) (h0 : 0 ≤ q) (h1 : q ≤ 1) :
    ∀ (d : Nat), binomPMF n q (startBucket n q + d) ≤ binomPMF n q (startBucket n q) := by
  intro d
  induction d with
  | zero => simp
  | succ d ih =>
    push_cast
    have h2 := pmf_step_down n q h0 h1 (startBucket n q + d) (by omega)
    rw [← add_assoc]
    exact le_trans h2 ih

/-- **G4 (the start bucket is a mode).** For `0 ≤ q ≤ 1` the start bucket `⌈(n+1)q⌉ − 1` (resp. `0` for `q = 0`) is a mode
of the binomial distribution: no bucket has larger mass. -/
theorem startBucket_is_mode (n : Nat) (q : ℚ) (h0 : 0 ≤ q) (h1 : q ≤ 1) :
    ∀ k : Int, binomPMF n q k ≤ binomPMF n q (startBucket n q) := by
  intro k
  by_cases hk0 : k < 0
  · rw [binomPMF_eq_zero n q k (Or.inl hk0)]
    exact binomPMF_nonneg n q h0 h1 _
  · rcases le_total k (startBucket n q) with h | h
    · have := pmf_le_up n q h0 h1 (startBucket n q - k).toNat k (by omega) (by omega)
      have e : k + (((startBucket n q - k).toNat : Nat) : Int) = startBucket n q := by omega
      rwa [e] at this
    · have := pmf_le_down n q h0 h1 (k - startBucket n q).toNat
      have e : startBucket n q + (((k - startBucket n q).toNat : Nat) : Int) = k := by omega
      rwa [e] at this

example : ∀ k : Int, binomPMF 5 (1/2) k ≤ binomPMF 5 (1/2) (startBucket 5 (1/2)) :=
  startBucket_is_mode 5 (1/2) (by norm_num) (by norm_num)

/-! ## the interval returned by `qci`: G1–G7 -/

/-- the raw loop output that `greedy` clamps -/
def raw (n : Nat) (q c : ℚ) : Int × Int × ℚ × Bool :=
  loop n q c (n + 2) (startBucket n q) (startBucket n q + 1) (binomPMF n q (startBucket n q))
    (binomPMF n q (startBucket n q + 1) == binomPMF n q (startBucket n q))

/-- bounds and the accumulated mass: every bucket that is added has positive mass, hence lies
in `[0,n]` -/
lemma raw_inv (n : Nat) (q c : ℚ) (h0 : 0 ≤ q) (h1 : q ≤ 1) :
    0 ≤ (raw n q c).1 ∧ (raw n q c).1 < (raw n q c).2.1 ∧ (raw n q c).2.1 ≤ (n : Int) + 1 ∧
      (raw n q c).2.2.1 = mass n q (raw n q c).1 (raw n q c).2.1 := by
  obtain ⟨b0, b1⟩ := startBucket_bounds n q h0 h1
  refine loop_induct n q c
    (fun l r acc _ => 0 ≤ l ∧ l < r ∧ r ≤ (n : Int) + 1 ∧ acc = mass n q l r) ?_ ?_ _ _ _ _ _
    ⟨b0, by omega, by omega, (mass_single n q _).symm⟩
  · intro l r acc _ h _ _ hpos
    obtain ⟨a, b, c', d⟩ := h
    have hl : 0 ≤ l - 1 := by
      by_contra hneg
      rw [binomPMF_eq_zero n q (l - 1) (Or.inl (by omega))] at hpos
      exact lt_irrefl _ hpos
    refine ⟨hl, by omega, c', ?_⟩
    rw [mass_pred_left n q l r b.le, d, add_comm]
  · intro l r acc _ h _ _ hpos
    obtain ⟨a, b, c', d⟩ := h
    have hr : r ≤ n := by
      by_contra hneg
      rw [binomPMF_eq_zero n q r (Or.inr (by omega))] at hpos
      exact lt_irrefl _ hpos
    refine ⟨a, by omega, by omega, ?_⟩
    rw [mass_succ_right n q l r b.le, d]

lemma raw_contains (n : Nat) (q c : ℚ) :
    (raw n q c).1 ≤ startBucket n q ∧ startBucket n q + 1 ≤ (raw n q c).2.1 :=
  loop_expands n q c _ _ _ _ _

lemma greedy_eq (n : Nat) (q c : ℚ) (h0 : 0 ≤ q) (h1 : q ≤ 1) :
    greedy n q c = ⟨(raw n q c).1, (raw n q c).2.1, (raw n q c).2.2.1, (raw n q c).2.2.2⟩ := by
  obtain ⟨a, _, b, _⟩ := raw_inv n q c h0 h1
  unfold raw at a b ⊢
  simp only [greedy]
  rw [if_neg (not_lt.2 a), if_neg (not_lt.2 b)]

/-- below `c = 1` the result is the raw loop output: the clamping in `greedy` never acts -/
lemma qci_eq_raw (n : Nat) (q c : ℚ) (h0 : 0 ≤ q) (h1 : q ≤ 1) (hc : c < 1) :
    qci n q c = ⟨(raw n q c).1, (raw n q c).2.1, (raw n q c).2.2.1, (raw n q c).2.2.2⟩ := by
  unfold qci
  rw [if_neg (not_le.2 hc), greedy_eq n q c h0 h1]

lemma qci_of_ge (n : Nat) (q c : ℚ) (hc : 1 ≤ c) : qci n q c = ⟨0, (n : Int) + 1, 1, false⟩ := by
  unfold qci; rw [if_pos hc]

/-- **G1.** For `0 ≤ q ≤ 1` and every `c`, the interval returned by `qci` satisfies
`0 ≤ lo < hi ≤ n+1`. -/
theorem qci_orders (n : Nat) (q c : ℚ) (h0 : 0 ≤ q) (h1 : q ≤ 1) :
    0 ≤ (qci n q c).lo ∧ (qci n q c).lo < (qci n q c).hi ∧ (qci n q c).hi ≤ (n : Int) + 1 := by
  by_cases hc : 1 ≤ c
  · rw [qci_of_ge n q c hc]
    refine ⟨le_rfl, ?_, le_rfl⟩
    show (0 : Int) < (n : Int) + 1
    omega
  · rw [qci_eq_raw n q c h0 h1 (not_le.1 hc)]
    obtain ⟨a, b, c', _⟩ := raw_inv n q c h0 h1
    exact ⟨a, b, c'⟩

example : 0 ≤ (qci 5 (1/2) (7/8)).lo ∧ (qci 5 (1/2) (7/8)).lo < (qci 5 (1/2) (7/8)).hi ∧
    (qci 5 (1/2) (7/8)).hi ≤ ((5 : Nat) : Int) + 1 :=
  qci_orders 5 (1/2) (7/8) (by norm_num) (by norm_num)

/-- concrete values (kernel-evaluated) used by the examples below -/
example : (qci 5 (1/2) (7/8)).lo = 1 ∧ (qci 5 (1/2) (7/8)).hi = 5 ∧
    (qci 5 (1/2) (7/8)).conf = 15/16 ∧ (qci 5 (1/2) (7/8)).amb = false ∧
    startBucket 5 (1/2) = 2 := by decide +kernel

example : (qci 5 (1/2) (1/2)).lo = 2 ∧ (qci 5 (1/2) (1/2)).hi = 4 := by decide +kernel

/-- **G2.** For `0 ≤ q ≤ 1` and every `c`, the reported confidence is exactly the binomial
probability of the buckets `lo .. hi-1`. -/
theorem qci_conf_mass (n : Nat) (q c : ℚ) (h0 : 0 ≤ q) (h1 : q ≤ 1) :
    (qci n q c).conf = mass n q (qci n q c).lo (qci n q c).hi := by
  by_cases hc : 1 ≤ c
  · rw [qci_of_ge n q c hc]
    exact (mass_full n q).symm
  · rw [qci_eq_raw n q c h0 h1 (not_le.1 hc)]
    exact (raw_inv n q c h0 h1).2.2.2

example : (qci 5 (1/2) (7/8)).conf = mass 5 (1/2) (qci 5 (1/2) (7/8)).lo (qci 5 (1/2) (7/8)).hi :=
  qci_conf_mass 5 (1/2) (7/8) (by norm_num) (by norm_num)

lemma pmf_pos (n : Nat) (q : ℚ) (h0 : 0 < q) (h1 : q < 1) (k : Int) (hk0 : 0 ≤ k) (hkn : k ≤ n) :
    0 < binomPMF n q k :=
  lt_of_le_of_ne (binomPMF_nonneg n q h0.le h1.le k)
    (Ne.symm ((binomPMF_ne_zero_iff n q h0 h1 k).2 ⟨hk0, hkn⟩))

lemma raw_conf_of_startMass_one (n : Nat) (q c : ℚ) (hc : c < 1)
    (hx : binomPMF n q (startBucket n q) = 1) : (raw n q c).2.2.1 = 1 := by
  unfold raw
  rw [show n + 2 = (n + 1) + 1 from rfl, loop_succ, if_neg]
  · exact hx
  · rw [hx]; intro h; linarith [h.1]

lemma startMass_of_q_zero (n : Nat) : binomPMF n 0 (startBucket n 0) = 1 := by
  have e : startBucket n 0 = ((0 : Nat) : Int) := by unfold startBucket; simp
  rw [e, binomPMF_natCast]; simp

lemma startMass_of_q_one (n : Nat) : binomPMF n 1 (startBucket n 1) = 1 := by
  have hb := startBucket_bounds n 1 (by norm_num) (by norm_num)
  have hs := (startBucket_spec n 1).2 (startBucket n 1) hb.1 le_rfl
  have e : startBucket n 1 = ((n : Nat) : Int) := by
    have : ((n : Int) : ℚ) ≤ ((startBucket n 1 : Int) : ℚ) := by push_cast; linarith
    have := Int.cast_le.1 this
    omega
  rw [e, binomPMF_natCast]; simp

/-- **G3 for `c < 1`.** For `0 ≤ q ≤ 1` and `c < 1` the reported confidence is always at
least `c`: if the loop stops short of `c` the interval is the whole range, of total mass `1 > c`. -/
theorem qci_conf_ge_strong (n : Nat) (q c : ℚ) (h0 : 0 ≤ q) (h1 : q ≤ 1) (hc : c < 1) :
    (qci n q c).conf ≥ c := by
  rw [qci_eq_raw n q c h0 h1 hc]
  show (raw n q c).2.2.1 ≥ c
  rcases h0.eq_or_lt with hq | hq0
  · subst hq; rw [raw_conf_of_startMass_one n 0 c hc (startMass_of_q_zero n)]; exact hc.le
  rcases h1.eq_or_lt with hq | hq1
  · subst hq; rw [raw_conf_of_startMass_one n 1 c hc (startMass_of_q_one n)]; exact hc.le
  obtain ⟨i1, i2, i3, i4⟩ := raw_inv n q c h0 h1
  have hs : ¬ ((raw n q c).2.2.1 < c ∧
        (0 < binomPMF n q ((raw n q c).1 - 1) ∨ 0 < binomPMF n q (raw n q c).2.1)) ∨
      (raw n q c).2.1 - (raw n q c).1
        = (startBucket n q + 1) - startBucket n q + ((n + 2 : Nat) : Int) :=
    loop_stop n q c (n + 2) _ _ _ _
  rcases hs with hs | hs
  · -- the guard failed: either the mass reached `c`, or no neighbour has mass left, and then the
    -- interval is all of `[0, n+1)` with mass `1`
    by_contra hacc
    have hz : ¬ (0 < binomPMF n q ((raw n q c).1 - 1) ∨ 0 < binomPMF n q (raw n q c).2.1) :=
      fun hh => hs ⟨not_le.1 hacc, hh⟩
    have hl : (raw n q c).1 = 0 := by
      by_contra hne
      exact hz (Or.inl (pmf_pos n q hq0 hq1 _ (by omega) (by omega)))
    have hh : (raw n q c).2.1 = (n : Int) + 1 := by
      by_contra hne
      exact hz (Or.inr (pmf_pos n q hq0 hq1 _ (by omega) (by omega)))
    rw [i4, hl, hh, mass_full] at hacc
    exact hacc hc.le
  · -- using up all `n + 2` units of fuel would make the interval `n + 3` wide, inside `[0, n+1]`
    exfalso; push_cast at hs; omega

/-- **G3.** For `0 ≤ q ≤ 1` and `c < 1`, the reported confidence is at least the requested `c`,
unless the interval is the whole range `[0, n+1)`; by `qci_conf_ge_strong` the first alternative
always holds. -/
theorem qci_conf_ge (n : Nat) (q c : ℚ) (h0 : 0 ≤ q) (h1 : q ≤ 1) (hc : c < 1) :
    (qci n q c).conf ≥ c ∨ ((qci n q c).lo = 0 ∧ (qci n q c).hi = (n : Int) + 1) :=
  Or.inl (qci_conf_ge_strong n q c h0 h1 hc)

example : (qci 5 (1/2) (7/8)).conf ≥ 7/8 ∨
    ((qci 5 (1/2) (7/8)).lo = 0 ∧ (qci 5 (1/2) (7/8)).hi = ((5 : Nat) : Int) + 1) :=
  qci_conf_ge 5 (1/2) (7/8) (by norm_num) (by norm_num) (by norm_num)

example : (qci 6 (1/3) (99/100)).conf ≥ 99/100 :=
  qci_conf_ge_strong 6 (1/3) (99/100) (by norm_num) (by norm_num) (by norm_num)

example : (qci 6 (1/3) (99/100)).lo = 0 ∧ (qci 6 (1/3) (99/100)).hi = 6 ∧
    (qci 6 (1/3) (99/100)).conf = 728/729 := by decide +kernel

/-- **G4 (the interval contains it).** For `0 ≤ q ≤ 1` and `c < 1` the interval contains the start bucket (the mode). -/
theorem qci_contains_mode (n : Nat) (q c : ℚ) (h0 : 0 ≤ q) (h1 : q ≤ 1) (hc : c < 1) :
    (qci n q c).lo ≤ startBucket n q ∧ startBucket n q < (qci n q c).hi := by
  rw [qci_eq_raw n q c h0 h1 hc]
  obtain ⟨a, b⟩ := raw_contains n q c
  exact ⟨a, by show startBucket n q < (raw n q c).2.1; omega⟩

example : (qci 5 (1/2) (7/8)).lo ≤ startBucket 5 (1/2) ∧
    startBucket 5 (1/2) < (qci 5 (1/2) (7/8)).hi :=
  qci_contains_mode 5 (1/2) (7/8) (by norm_num) (by norm_num) (by norm_num)

/-- **G5.** For `0 ≤ q ≤ 1`, `c < 1`: if the interval has at least two buckets then removing
one of its two end buckets drops the confidence strictly below `c` (the last bucket added was
needed). -/
theorem qci_end_needed (n : Nat) (q c : ℚ) (h0 : 0 ≤ q) (h1 : q ≤ 1) (hc : c < 1)
    (hw : (qci n q c).hi - (qci n q c).lo ≥ 2) :
    (qci n q c).conf - binomPMF n q (qci n q c).lo < c ∨
      (qci n q c).conf - binomPMF n q ((qci n q c).hi - 1) < c := by
  rw [qci_eq_raw n q c h0 h1 hc] at hw ⊢
  have key : ((raw n q c).1 = startBucket n q ∧ (raw n q c).2.1 = startBucket n q + 1) ∨
      ((raw n q c).2.2.1 - binomPMF n q (raw n q c).1 < c ∨
        (raw n q c).2.2.1 - binomPMF n q ((raw n q c).2.1 - 1) < c) := by
    refine loop_induct n q c
      (fun l r acc _ => (l = startBucket n q ∧ r = startBucket n q + 1) ∨
        (acc - binomPMF n q l < c ∨ acc - binomPMF n q (r - 1) < c)) ?_ ?_ _ _ _ _ _
      (Or.inl ⟨rfl, rfl⟩)
    · intro l r acc _ _ hacc _ _
      right; left
      rw [add_sub_cancel_right]; exact hacc
    · intro l r acc _ _ hacc _ _
      right; right
      rw [add_sub_cancel_right, add_sub_cancel_right]; exact hacc
  rcases key with ⟨e1, e2⟩ | key
  · exfalso
    have : (raw n q c).2.1 - (raw n q c).1 ≥ 2 := hw
    omega
  · exact key

example : (qci 5 (1/2) (7/8)).conf - binomPMF 5 (1/2) (qci 5 (1/2) (7/8)).lo < 7/8 ∨
    (qci 5 (1/2) (7/8)).conf - binomPMF 5 (1/2) ((qci 5 (1/2) (7/8)).hi - 1) < 7/8 :=
  qci_end_needed 5 (1/2) (7/8) (by norm_num) (by norm_num) (by norm_num) (by decide +kernel)

/-- **G6.** For `0 ≤ q ≤ 1` and `c ≤ c'` the interval for `c` is contained in the one for `c'`. -/
theorem qci_nested (n : Nat) (q c c' : ℚ) (h0 : 0 ≤ q) (h1 : q ≤ 1) (hcc : c ≤ c') :
    (qci n q c').lo ≤ (qci n q c).lo ∧ (qci n q c).hi ≤ (qci n q c').hi := by
  by_cases hc' : 1 ≤ c'
  · obtain ⟨a, _, b⟩ := qci_orders n q c h0 h1
    rw [qci_of_ge n q c' hc']
    exact ⟨a, b⟩
  · have hc'1 : c' < 1 := not_le.1 hc'
    have hc1 : c < 1 := lt_of_le_of_lt hcc hc'1
    rw [qci_eq_raw n q c h0 h1 hc1, qci_eq_raw n q c' h0 h1 hc'1]
    exact loop_mono n q c c' hcc _ _ _ _ _

example : (qci 5 (1/2) (7/8)).lo ≤ (qci 5 (1/2) (1/2)).lo ∧
    (qci 5 (1/2) (1/2)).hi ≤ (qci 5 (1/2) (7/8)).hi :=
  qci_nested 5 (1/2) (1/2) (7/8) (by norm_num) (by norm_num) (by norm_num)

/-- **G7.** For `0 ≤ q ≤ 1` and every `c`: when the `amb` flag is set, the interval shifted up
by one bucket has exactly the same confidence. -/
theorem qci_ambiguous (n : Nat) (q c : ℚ) (h0 : 0 ≤ q) (h1 : q ≤ 1)
    (hamb : (qci n q c).amb = true) :
    mass n q ((qci n q c).lo + 1) ((qci n q c).hi + 1) = (qci n q c).conf := by
  by_cases hc : 1 ≤ c
  · rw [qci_of_ge n q c hc] at hamb
    simp at hamb
  · rw [qci_eq_raw n q c h0 h1 (not_le.1 hc)] at hamb ⊢
    have key : (raw n q c).2.2.2 = true →
        binomPMF n q (raw n q c).1 = binomPMF n q (raw n q c).2.1 := by
      refine loop_induct n q c
        (fun l r _ amb => amb = true → binomPMF n q l = binomPMF n q r) ?_ ?_ _ _ _ _ _ ?_
      · intro l r _ _ _ _ _ _ hb
        exact eq_of_beq hb
      · intro l r _ _ _ _ hlt _ hb
        exact absurd (eq_of_beq hb) (ne_of_lt hlt)
      · intro hb
        exact (eq_of_beq hb).symm
    obtain ⟨_, i2, _, i4⟩ := raw_inv n q c h0 h1
    have hk := key hamb
    show mass n q ((raw n q c).1 + 1) ((raw n q c).2.1 + 1) = (raw n q c).2.2.1
    rw [mass_shift n q _ _ i2.le, ← i4, hk]; ring

example : (qci 3 (1/2) (1/4)).amb = true ∧ (qci 3 (1/2) (1/4)).lo = 1 ∧
    (qci 3 (1/2) (1/4)).hi = 2 ∧ (qci 3 (1/2) (1/4)).conf = 3/8 := by decide +kernel

example : mass 3 (1/2) ((qci 3 (1/2) (1/4)).lo + 1) ((qci 3 (1/2) (1/4)).hi + 1)
    = (qci 3 (1/2) (1/4)).conf :=
  qci_ambiguous 3 (1/2) (1/4) (by norm_num) (by norm_num) (by decide +kernel)

end MV.QCI
