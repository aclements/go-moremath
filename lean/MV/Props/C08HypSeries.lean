import MV.Model.Special
import MV.Proofs.Interval
/-!
# C08 — the power series `MV.Special.hypSeries` is sound; analysis shared by the C08 series files

`hypSeries c d x` evaluates `S(c,d,x) = Σ_{n≥0} ∏_{j<n} (c+j)·x/(d+j)` on the integer grid
`2^-128`, rounding every term up, and returns the interval

    [ max 1 ((s − 200000/(1−r))/2^128),  (s + t·r/(1−r) + 1)/2^128 ],   r = max x (c·x/d),

where `s` is the sum of the computed terms and `t` the last computed term; `200000` is both the fuel
of the loop and the numerator of the rounding slack (`Model/Special.lean`, `hypSeries`: one unit per
step, amplified by `1/(1−r)`), and the loop stops early once `t ≤ 1`.  This file proves that
for positive rational `c d x` the real value of the series lies in the returned interval
(`hypSeries_sound`) and that the series is summable whenever `r < 1` (`hypSeries_summable`).

What the gamma series (`C08GammaSeries`) and the two series identities (`C08BetaIdentity`,
`C08GammaIdentity`) share with it is proved here once: the terms `hT q n = ∏_{j<n} q j` with their
geometric tail bounds once the ratios stay below `r < 1`, the series of a function that satisfies a
first-order recurrence in its parameter (`series_of_recurrence`, with the integral bound
`integral_rpow_mul_le` for its hypothesis), `exp` of a log-domain enclosure
(`exp_mul_log_add_sub_log`, `exp_le_exp_hi`), one step of a rounding loop (`round_step`,
`ceilDiv_cast`), positive
rationals as quotients of naturals (`rat_cast_toNat_div`, `rat_add_nat_cast`), the shape
`[max 1 (A/N), B/N]` of both enclosures (`mem_ratMax_div`), and what a Boolean check of an
interval's ends gives (`exists_bounds_of_any`).  Lemmas named `gT_…`, `bT_…` in the other files are about
`hT (gq …)`, `hT (bq …)`, the terms of the gamma and of the beta series.
-/
namespace MV.Special
open MV MV.I Finset

/-- the `n`-th term `∏_{j<n} q j` -/
noncomputable def hT (q : ℕ → ℝ) (n : ℕ) : ℝ := ∏ j ∈ range n, q j

lemma hT_zero (q : ℕ → ℝ) : hT q 0 = 1 := by simp [hT]

lemma hT_succ (q : ℕ → ℝ) (n : ℕ) : hT q (n + 1) = hT q n * q n := prod_range_succ _ _

lemma hT_nonneg {q : ℕ → ℝ} (h0 : ∀ n, 0 ≤ q n) (n : ℕ) : 0 ≤ hT q n :=
  prod_nonneg (fun j _ => h0 j)

section tail
variable {q : ℕ → ℝ} {r : ℝ} {K : ℕ}

lemma hT_add_le (h0 : ∀ n, 0 ≤ q n) (hr : ∀ k, K ≤ k → q k ≤ r) (m : ℕ) :
    hT q (K + m) ≤ hT q K * r ^ m := by
  have hr0 : 0 ≤ r := (h0 K).trans (hr K le_rfl)
  induction m with
  | zero => simp
  | succ m ih =>
    rw [← add_assoc, hT_succ, pow_succ, ← mul_assoc]
    exact mul_le_mul ih (hr _ (Nat.le_add_right K m)) (h0 _)
      (mul_nonneg (hT_nonneg h0 K) (pow_nonneg hr0 m))

lemma hT_summable (h0 : ∀ n, 0 ≤ q n) (hr : ∀ k, K ≤ k → q k ≤ r) (hr1 : r < 1) :
    Summable (hT q) :=
  (summable_nat_add_iff K).mp <| Summable.of_nonneg_of_le (fun _ => hT_nonneg h0 _)
    (fun m => by rw [add_comm]; exact hT_add_le h0 hr m)
    ((summable_geometric_of_lt_one ((h0 K).trans (hr K le_rfl)) hr1).mul_left _)

lemma hT_tail_le (h0 : ∀ n, 0 ≤ q n) (hr : ∀ k, K ≤ k → q k ≤ r) (hr1 : r < 1) :
    ∑' k, hT q (k + (K + 1)) ≤ hT q K * (r / (1 - r)) := by
  have hr0 : 0 ≤ r := (h0 K).trans (hr K le_rfl)
  have hs : Summable (fun k => hT q (k + (K + 1))) :=
    (summable_nat_add_iff (K + 1)).mpr (hT_summable h0 hr hr1)
  have hg : HasSum (fun k : ℕ => hT q K * (r * r ^ k)) (hT q K * (r * (1 - r)⁻¹)) :=
    ((hasSum_geometric_of_lt_one hr0 hr1).mul_left r).mul_left (hT q K)
  have := hasSum_le (fun k => ?_) hs.hasSum hg
  · rwa [div_eq_mul_inv]
  · have := hT_add_le h0 hr (k + 1)
    rw [pow_succ'] at this
    rwa [show k + (K + 1) = K + (k + 1) by ring]

/-- the value of the series lies between the partial sum up to `K` and that partial sum plus
the geometric tail bound -/
lemma hT_tsum_bounds (h0 : ∀ n, 0 ≤ q n) (hr : ∀ k, K ≤ k → q k ≤ r) (hr1 : r < 1) :
    ∑ k ∈ range (K + 1), hT q k ≤ ∑' n, hT q n ∧
      ∑' n, hT q n ≤ ∑ k ∈ range (K + 1), hT q k + hT q K * (r / (1 - r)) := by
  have hsplit := (hT_summable h0 hr hr1).sum_add_tsum_nat_add (K + 1)
  have h1 := hT_tail_le h0 hr hr1
  have h2 : 0 ≤ ∑' k, hT q (k + (K + 1)) := tsum_nonneg fun _ => hT_nonneg h0 _
  constructor <;> linarith

end tail

lemma hT_pos {q : ℕ → ℝ} (h0 : ∀ n, 0 < q n) (n : ℕ) : 0 < hT q n :=
  prod_pos fun j _ => h0 j

/-! ## a function with a first-order recurrence in its parameter is the sum of its series

Both incomplete functions (`B_x(a,b)` and `γ(a,x)`) satisfy, by one integration by parts,
`(a+n)·F n = x^(a+n)·w + ρ n·F (n+1)` with `F n` the function at parameter `a + n`, and
`0 ≤ F n ≤ M·x^(a+n)/(a+n)`.  Iterating `N` times leaves the `N`-th partial sum of the series with
ratios `ρ j·x/(a+1+j)` plus a remainder that is at most a constant times its `N`-th term. -/

/-- the exponential of a log-domain enclosure `c·log x + v − log B` is `x^c·e^v/B` -/
lemma exp_mul_log_add_sub_log {c x v B : ℝ} (hx : 0 < x) (hB : 0 < B) :
    Real.exp (c * Real.log x + v - Real.log B) = x ^ c * Real.exp v / B := by
  rw [Real.exp_sub, Real.exp_add, Real.exp_log hB, Real.rpow_def_of_pos hx, mul_comm c]

lemma exp_le_exp_hi {x : ℝ} {e : I} (h : Mem x e) :
    Real.exp x ≤ (((I.exp ⟨e.hi, e.hi⟩).hi : ℚ) : ℝ) :=
  (Real.exp_le_exp.mpr h.2).trans (exp_sound ⟨e.hi, e.hi⟩ _ ⟨le_rfl, le_rfl⟩).2

open MeasureTheory intervalIntegral in
lemma integral_rpow_mul_le {c x M : ℝ} {w : ℝ → ℝ} (hc : 0 < c) (hx : 0 ≤ x)
    (hint : IntervalIntegrable (fun t => t ^ (c - 1) * w t) volume 0 x)
    (hw : ∀ t ∈ Set.Icc 0 x, w t ≤ M) :
    ∫ t in (0 : ℝ)..x, t ^ (c - 1) * w t ≤ M * (x ^ c / c) := by
  have h := integral_mono_on hx hint
    ((intervalIntegrable_rpow' (r := c - 1) (by linarith)).const_mul M) fun t ht => by
      rw [mul_comm]
      exact mul_le_mul_of_nonneg_right (hw t ht) (Real.rpow_nonneg ht.1 _)
  rwa [intervalIntegral.integral_const_mul, integral_rpow (Or.inl (by linarith)), sub_add_cancel,
    Real.zero_rpow hc.ne', sub_zero] at h

open Filter Topology in
lemma series_of_recurrence {F ρ : ℕ → ℝ} {a x w M : ℝ} (ha : 0 < a) (hx : 0 < x)
    (hρ : ∀ n, 0 ≤ ρ n)
    (hrec : ∀ n : ℕ, (a + n) * F n = x ^ (a + n) * w + ρ n * F (n + 1))
    (h0 : ∀ n, 0 ≤ F n) (hle : ∀ n : ℕ, F n ≤ M * (x ^ (a + n) / (a + n)))
    (hs : Summable (hT fun j => ρ j * x / (a + 1 + j))) :
    F 0 = x ^ a * w / a * ∑' n, hT (fun j => ρ j * x / (a + 1 + j)) n := by
  set q : ℕ → ℝ := fun j => ρ j * x / (a + 1 + j)
  have hpow : ∀ N : ℕ, x ^ (a + N) = x ^ a * x ^ N := Real.rpow_add_natCast hx.ne' a
  have hT0 : ∀ N, 0 ≤ hT q N :=
    hT_nonneg fun j => div_nonneg (mul_nonneg (hρ j) hx.le) (by positivity)
  -- `N` steps of the recurrence, cleared of denominators: the remainder after the `N`-th partial
  -- sum, times `a·x^N`, is `T_N·(a+N)·F N`
  have expand : ∀ N : ℕ, (F 0 - x ^ a * w / a * ∑ n ∈ range N, hT q n) * (a * x ^ N) =
      hT q N * ((a + N) * F N) := by
    intro N
    induction N with
    | zero => simp [hT_zero, mul_comm]
    | succ N ih =>
      have hq : hT q (N + 1) * (a + 1 + N) = hT q N * (ρ N * x) := by
        rw [hT_succ, mul_assoc, div_mul_cancel₀ _ (by positivity : a + 1 + (N : ℝ) ≠ 0)]
      have hA : x ^ a * w / a * a = x ^ a * w := div_mul_cancel₀ _ ha.ne'
      have hr := hrec N
      rw [hpow] at hr
      rw [sum_range_succ]
      push_cast
      linear_combination x * ih + x * hT q N * hr - hT q N * x ^ N * x * hA - F (N + 1) * hq
  have h2 : Tendsto (fun N : ℕ => F 0 - x ^ a * w / a * ∑ n ∈ range N, hT q n) atTop (𝓝 0) := by
    refine squeeze_zero (fun N => ?_) (fun N => ?_)
      (by simpa using hs.tendsto_atTop_zero.const_mul (M * x ^ a / a))
    · exact nonneg_of_mul_nonneg_left
        ((expand N).symm ▸ mul_nonneg (hT0 N) (mul_nonneg (by positivity) (h0 N))) (by positivity)
    · have hb : (a + N) * F N ≤ M * (x ^ a * x ^ N) := by
        have := mul_le_mul_of_nonneg_left (hle N) (by positivity : (0 : ℝ) ≤ a + N)
        rwa [hpow, mul_left_comm, mul_div_cancel₀ _ (by positivity : a + (N : ℝ) ≠ 0)] at this
      refine le_of_mul_le_mul_right ?_ (by positivity : 0 < a * x ^ N)
      rw [expand N]
      calc hT q N * ((a + N) * F N) ≤ hT q N * (M * (x ^ a * x ^ N)) :=
            mul_le_mul_of_nonneg_left hb (hT0 N)
        _ = M * x ^ a / a * hT q N * (a * x ^ N) := by field_simp
  have h3 := (tendsto_const_nhds (x := F 0)).sub h2
  rw [sub_zero] at h3
  refine tendsto_nhds_unique ?_ ((hs.hasSum.tendsto_sum_nat.const_mul (x ^ a * w / a)))
  simpa using h3

lemma hyp_ratio_le {c d x : ℝ} (hd : 0 < d) (hx : 0 < x) (n : ℕ) :
    (c + n) * x / (d + n) ≤ max x (c * x / d) := by
  have hn : (0 : ℝ) ≤ n := Nat.cast_nonneg n
  have hdn : 0 < d + n := by linarith
  rcases le_total c d with h | h
  · refine le_max_of_le_left ?_
    rw [div_le_iff₀ hdn]
    linarith [mul_le_mul_of_nonneg_left h hx.le]
  · refine le_max_of_le_right ?_
    rw [div_le_div_iff₀ hdn hd]
    linarith [mul_le_mul_of_nonneg_left h (mul_nonneg hn hx.le)]

lemma hyp_ratio_pos {c d x : ℝ} (hc : 0 < c) (hd : 0 < d) (hx : 0 < x) (n : ℕ) :
    0 < (c + n) * x / (d + n) := by
  have hn : (0 : ℝ) ≤ n := Nat.cast_nonneg n
  exact div_pos (mul_pos (by linarith) hx) (by linarith)

/-- The series `Σ_n ∏_{j<n} (c+j)·x/(d+j)` is summable when `max x (c·x/d) < 1`
(positive rational `c d x`). -/
theorem hypSeries_summable (c d x : ℚ) (hc : 0 < c) (hd : 0 < d) (hx : 0 < x)
    (hr : max x (c * x / d) < 1) :
    Summable (fun n : ℕ => ∏ j ∈ Finset.range n, (((c : ℝ) + j) * x / ((d : ℝ) + j))) := by
  have hcR : (0 : ℝ) < c := by exact_mod_cast hc
  have hdR : (0 : ℝ) < d := by exact_mod_cast hd
  have hxR : (0 : ℝ) < x := by exact_mod_cast hx
  have hrR : max (x : ℝ) ((c : ℝ) * x / d) < 1 := by exact_mod_cast hr
  exact hT_summable (q := fun j : ℕ => ((c : ℝ) + j) * x / ((d : ℝ) + j))
    (K := 0) (fun n => (hyp_ratio_pos hcR hdR hxR n).le) (fun n _ => hyp_ratio_le hdR hxR n) hrR

example : Summable (fun n : ℕ => ∏ j ∈ Finset.range n,
    ((((5 / 2 : ℚ) : ℝ) + j) * ((1 / 4 : ℚ) : ℝ) / (((3 / 2 : ℚ) : ℝ) + j))) :=
  hypSeries_summable (5 / 2) (3 / 2) (1 / 4) (by norm_num) (by norm_num) (by norm_num)
    (by norm_num)

lemma hyp_go_zero (cN cD dN dD xN xD n s t : ℕ) :
    hypSeries.go cN cD dN dD xN xD 0 n s t = (s, t) := rfl

lemma hyp_go_succ (cN cD dN dD xN xD f n s t : ℕ) :
    hypSeries.go cN cD dN dD xN xD (f + 1) n s t =
      if t ≤ 1 then (s, t) else
      if (t * ((cN + n * cD) * xN * dD) + (dN + n * dD) * xD * cD - 1) / ((dN + n * dD) * xD * cD) ≥ t
      then (s, t)
      else hypSeries.go cN cD dN dD xN xD f (n + 1)
        (s + (t * ((cN + n * cD) * xN * dD) + (dN + n * dD) * xD * cD - 1) / ((dN + n * dD) * xD * cD))
        ((t * ((cN + n * cD) * xN * dD) + (dN + n * dD) * xD * cD - 1) / ((dN + n * dD) * xD * cD)) :=
  rfl

lemma ceilDiv_cast (t num den : ℕ) (hd : 0 < den) :
    (t : ℝ) * ((num : ℝ) / (den : ℝ)) ≤ (((t * num + den - 1) / den : ℕ) : ℝ) ∧
      (((t * num + den - 1) / den : ℕ) : ℝ) ≤ (t : ℝ) * ((num : ℝ) / (den : ℝ)) + 1 := by
  have h := ceilDiv_boundsR (t * num) den hd
  rwa [Nat.cast_mul, mul_div_assoc] at h

/-- one step of a loop that multiplies the computed term `t` by `q n` and rounds up by at most one
unit: the new term is still above the exact scaled term, and its excess `E` becomes at most
`E·q n + 1`.  Both series loops (`hypSeries.go`, `gammaRegIWith.go`) step like this. -/
lemma round_step {q : ℕ → ℝ} {one : ℝ} {n t t' : ℕ} (h0 : 0 ≤ q n) (a1 : one * hT q n ≤ t)
    (h1 : (t : ℝ) * q n ≤ t') (h2 : (t' : ℝ) ≤ t * q n + 1) :
    one * hT q (n + 1) ≤ t' ∧
      (t' : ℝ) - one * hT q (n + 1) ≤ ((t : ℝ) - one * hT q n) * q n + 1 := by
  rw [hT_succ, ← mul_assoc]
  exact ⟨(mul_le_mul_of_nonneg_right a1 h0).trans h1, by linarith⟩

/-- loop invariant: `t` is the `n`-th term rounded up with error at most `1/(1−r)` grid units, `s` is the
`n`-th partial sum (terms `0..n`) with accumulated excess at most `n/(1−r)` grid units -/
def HInv (q : ℕ → ℝ) (r one : ℝ) (n s t : ℕ) : Prop :=
  one * hT q n ≤ t ∧ ((t : ℝ) - one * hT q n) * (1 - r) ≤ 1 ∧
    one * (∑ k ∈ range (n + 1), hT q k) ≤ s ∧
    ((s : ℝ) - one * ∑ k ∈ range (n + 1), hT q k) * (1 - r) ≤ n

lemma HInv_step {q : ℕ → ℝ} {r one : ℝ} (h0 : ∀ n, 0 ≤ q n) (hr : ∀ n, q n ≤ r) (hr1 : r < 1)
    {n s t t' : ℕ} (h : HInv q r one n s t) (h1 : (t : ℝ) * q n ≤ t') (h2 : (t' : ℝ) ≤ t * q n + 1) :
    HInv q r one (n + 1) (s + t') t' := by
  obtain ⟨a1, a2, a3, a4⟩ := h
  have hr0 : 0 ≤ r := (h0 0).trans (hr 0)
  obtain ⟨g1, e⟩ := round_step (h0 n) a1 h1 h2
  -- the excess `E` becomes at most `E·r + 1`, and `(E·r + 1)(1 − r) = E(1 − r)·r + (1 − r)`
  have g2 : ((t' : ℝ) - one * hT q (n + 1)) * (1 - r) ≤ 1 := by
    have b1 := e.trans (add_le_add_left
      (mul_le_mul_of_nonneg_left (hr n) (sub_nonneg.mpr a1)) 1)
    have b2 := mul_le_mul_of_nonneg_right b1 (sub_nonneg.mpr hr1.le)
    have b3 := mul_le_mul_of_nonneg_right a2 hr0
    linarith
  refine ⟨g1, g2, ?_, ?_⟩
  · rw [sum_range_succ]; push_cast; linarith
  · rw [sum_range_succ]; push_cast; linarith

lemma HInv_zero (q : ℕ → ℝ) (r : ℝ) (N : ℕ) : HInv q r N 0 N N := by
  simp only [HInv, zero_add, sum_range_one, hT_zero, mul_one, sub_self, zero_mul, Nat.cast_zero,
    le_refl, zero_le_one, and_self]

lemma hyp_go_inv (cN cD dN dD xN xD : ℕ) {q : ℕ → ℝ} {r one : ℝ}
    (hden : ∀ n, 0 < (dN + n * dD) * xD * cD)
    (hq : ∀ n, q n = (((cN + n * cD) * xN * dD : ℕ) : ℝ) / (((dN + n * dD) * xD * cD : ℕ) : ℝ))
    (h0 : ∀ n, 0 ≤ q n) (hr : ∀ n, q n ≤ r) (hr1 : r < 1) :
    ∀ fuel n s t, HInv q r one n s t →
      ∃ n', n' ≤ n + fuel ∧ HInv q r one n' (hypSeries.go cN cD dN dD xN xD fuel n s t).1
        (hypSeries.go cN cD dN dD xN xD fuel n s t).2 := by
  intro fuel
  induction fuel with
  | zero => intro n s t h; exact ⟨n, le_rfl, h⟩
  | succ f ih =>
    intro n s t h
    rw [hyp_go_succ]
    split_ifs with c1 c2
    · exact ⟨n, by omega, h⟩
    · exact ⟨n, by omega, h⟩
    · have hc := ceilDiv_cast t ((cN + n * cD) * xN * dD) _ (hden n)
      rw [← hq] at hc
      obtain ⟨n', hn', hI⟩ := ih (n + 1) _ _ (HInv_step h0 hr hr1 h hc.1 hc.2)
      exact ⟨n', by omega, hI⟩

lemma rat_cast_toNat_div (c : ℚ) (hc : 0 < c) :
    (c : ℝ) = ((c.num.toNat : ℕ) : ℝ) / ((c.den : ℕ) : ℝ) := by
  have h : ((c.num.toNat : ℕ) : ℝ) = ((c.num : ℤ) : ℝ) := by
    rw [← Int.cast_natCast, Int.toNat_of_nonneg (Rat.num_pos.mpr hc).le]
  rw [h]
  exact Rat.cast_def c

lemma rat_add_nat_cast (c : ℚ) (hc : 0 < c) (n : ℕ) :
    (c : ℝ) + n = ((c.num.toNat + n * c.den : ℕ) : ℝ) / ((c.den : ℕ) : ℝ) := by
  rw [rat_cast_toNat_div c hc, div_add' _ _ _ (Nat.cast_ne_zero.mpr c.den_ne_zero)]
  push_cast
  rfl

lemma hyp_ratio_eq (c d x : ℚ) (hc : 0 < c) (hd : 0 < d) (hx : 0 < x) (n : ℕ) :
    ((c : ℝ) + n) * x / ((d : ℝ) + n) =
      (((c.num.toNat + n * c.den) * x.num.toNat * d.den : ℕ) : ℝ) /
        (((d.num.toNat + n * d.den) * x.den * c.den : ℕ) : ℝ) := by
  rw [rat_add_nat_cast c hc, rat_add_nat_cast d hd, rat_cast_toNat_div x hx, div_mul_div_comm,
    div_div_div_eq]
  push_cast
  ring

/-- both series enclosures have the form `[max 1 (A/N), B/N]` in grid units `N` -/
lemma mem_ratMax_div {S : ℝ} {A B N : ℚ} (hN : 0 < N) (h1 : 1 ≤ S) (hlo : (A : ℝ) ≤ S * N)
    (hhi : S * N ≤ B) : Mem S ⟨ratMax 1 (A / N), B / N⟩ := by
  have hNR : (0 : ℝ) < N := Rat.cast_pos.mpr hN
  constructor
  · show ((ratMax 1 (A / N) : ℚ) : ℝ) ≤ S
    rw [ratMax_eq, Rat.cast_max, Rat.cast_one, Rat.cast_div]
    exact max_le h1 ((div_le_iff₀ hNR).mpr hlo)
  · show S ≤ ((B / N : ℚ) : ℝ)
    rw [Rat.cast_div]
    exact (le_div_iff₀ hNR).mpr hhi

/-- the interval `hypSeries` forms from the ratio bound `r` and the result `(s, t)` of its loop -/
def hypEncl (r : ℚ) (p : ℕ × ℕ) : I :=
  ⟨ratMax 1 (((p.1 : ℚ) - (200000 : ℚ) / (1 - r)) / (scaleN : ℚ)),
    ((p.1 : ℚ) + (p.2 : ℚ) * r / (1 - r) + 1) / (scaleN : ℚ)⟩

lemma hypSeries_eq (c d x : ℚ) :
    hypSeries c d x =
      if max x (c * x / d) ≥ 1 ∨ x ≤ 0 then none
      else some (hypEncl (max x (c * x / d))
        (hypSeries.go c.num.toNat c.den d.num.toNat d.den x.num.toNat x.den 200000 0
          scaleN scaleN)) := by
  unfold hypSeries hypEncl
  simp only [ratMax_eq]

/-- an invariant reached within the fuel bound puts the value of the series into `hypEncl` -/
lemma hypEncl_sound {q : ℕ → ℝ} {r : ℚ} (h0 : ∀ n, 0 ≤ q n) (hr : ∀ n, q n ≤ r) (hr1 : (r : ℝ) < 1)
    {K s t : ℕ} (hK : K ≤ 200000) (hI : HInv q r ((scaleN : ℕ) : ℝ) K s t) :
    Mem (∑' n, hT q n) (hypEncl r (s, t)) := by
  obtain ⟨a1, -, a3, a4⟩ := hI
  obtain ⟨b1, b2⟩ := hT_tsum_bounds (K := K) h0 (fun k _ => hr k) hr1
  have hr0 : (0 : ℝ) ≤ r := (h0 0).trans (hr 0)
  have h1r : (0 : ℝ) < 1 - r := sub_pos.mpr hr1
  have hS : (0 : ℝ) < ((scaleN : ℕ) : ℝ) := by exact_mod_cast scaleN_posR
  have hKR : (K : ℝ) ≤ 200000 := by exact_mod_cast hK
  refine mem_ratMax_div scaleN_pos (by simpa [hT_zero] using (hT_tsum_bounds (K := 0) h0 (fun k _ => hr k) hr1).1) ?_ ?_
  · have e1 := (le_div_iff₀ h1r).mpr (a4.trans hKR)
    have e2 := mul_le_mul_of_nonneg_left b1 hS.le
    push_cast
    linarith
  · have e1 := mul_le_mul_of_nonneg_left b2 hS.le
    have e2 := mul_le_mul_of_nonneg_right a1 (div_nonneg hr0 h1r.le)
    push_cast
    rw [mul_div_assoc]
    linarith

/-- Soundness of `hypSeries`: for positive rationals `c d x`, whenever `hypSeries c d x` returns an
interval `e`, the real value of the series `Σ_{n≥0} ∏_{j<n} (c+j)·x/(d+j)` lies in `e`
(`e.lo ≤ value ≤ e.hi` over `ℝ`). -/
theorem hypSeries_sound (c d x : ℚ) (hc : 0 < c) (hd : 0 < d) (hx : 0 < x) (e : I)
    (h : hypSeries c d x = some e) :
    Mem (∑' n : ℕ, ∏ j ∈ Finset.range n, (((c : ℝ) + j) * x / ((d : ℝ) + j))) e := by
  rw [hypSeries_eq] at h
  split_ifs at h with hcond
  obtain rfl := Option.some.inj h
  have hcR : (0 : ℝ) < c := by exact_mod_cast hc
  have hdR : (0 : ℝ) < d := by exact_mod_cast hd
  have hxR : (0 : ℝ) < x := by exact_mod_cast hx
  have hr1 : ((max x (c * x / d) : ℚ) : ℝ) < 1 := by exact_mod_cast not_le.mp (not_or.mp hcond).1
  have h0 := fun n => (hyp_ratio_pos hcR hdR hxR n).le
  have hr : ∀ n : ℕ, ((c : ℝ) + n) * x / ((d : ℝ) + n) ≤ ((max x (c * x / d) : ℚ) : ℝ) := fun n => by
    push_cast
    exact hyp_ratio_le hdR hxR n
  have hden : ∀ n, 0 < (d.num.toNat + n * d.den) * x.den * c.den := fun n =>
    Nat.mul_pos (Nat.mul_pos (Nat.add_pos_left (Int.pos_iff_toNat_pos.mp (Rat.num_pos.mpr hd)) _)
      x.den_pos) c.den_pos
  obtain ⟨K, hK, hI⟩ := hyp_go_inv (q := fun n : ℕ => ((c : ℝ) + n) * x / ((d : ℝ) + n))
    (one := ((scaleN : ℕ) : ℝ)) c.num.toNat c.den d.num.toNat d.den x.num.toNat x.den hden
    (hyp_ratio_eq c d x hc hd hx) h0 hr hr1 200000 0 scaleN scaleN (HInv_zero _ _ _)
  exact hypEncl_sound h0 hr hr1 (by omega) hI

/-- what a successful Boolean check of the ends of a returned interval says about its members -/
lemma exists_bounds_of_any {o : Option I} {lo hi : ℚ}
    (h : (o.any fun e => decide (lo ≤ e.lo) && decide (e.hi ≤ hi)) = true) :
    ∃ e, o = some e ∧ ∀ x, Mem x e → (lo : ℝ) ≤ x ∧ x ≤ (hi : ℝ) := by
  rw [Option.any_eq_true] at h
  obtain ⟨e, he, hb⟩ := h
  rw [Bool.and_eq_true, decide_eq_true_eq, decide_eq_true_eq] at hb
  exact ⟨e, he, fun x hx => ⟨(Rat.cast_le.mpr hb.1).trans hx.1, hx.2.trans (Rat.cast_le.mpr hb.2)⟩⟩

lemma hypSeries_quarter_bounds : ((hypSeries (5 / 2) (3 / 2) (1 / 4)).any
    (fun e => decide ((16296 / 10000 : ℚ) ≤ e.lo) && decide (e.hi ≤ (16297 / 10000 : ℚ)))) = true := by
  decide +kernel

/-- on `c = 5/2, d = 3/2, x = 1/4` the function returns an interval (inside `[1.6296, 1.6297]` by
`hypSeries_quarter_bounds`) -/
example : (hypSeries (5 / 2) (3 / 2) (1 / 4)).isSome = true := by
  obtain ⟨e, he, -⟩ := exists_bounds_of_any hypSeries_quarter_bounds
  rw [he]
  rfl

/-- `hypSeries_sound`: the hypotheses are satisfiable and the conclusion is about an
actual returned interval -/
example : ∃ e, hypSeries (5 / 2) (3 / 2) (1 / 4) = some e ∧
    Mem (∑' n : ℕ, ∏ j ∈ Finset.range n,
      ((((5 / 2 : ℚ) : ℝ) + j) * ((1 / 4 : ℚ) : ℝ) / (((3 / 2 : ℚ) : ℝ) + j))) e := by
  obtain ⟨e, he, -⟩ := exists_bounds_of_any hypSeries_quarter_bounds
  exact ⟨e, he, hypSeries_sound _ _ _ (by norm_num) (by norm_num) (by norm_num) e he⟩

/-- a concrete numerical consequence: `1.6296 ≤ Σ_n ∏_{j<n} (5/2+j)/(3/2+j)·(1/4) ≤ 1.6297` -/
example :
    (16296 / 10000 : ℝ) ≤ ∑' n : ℕ, ∏ j ∈ Finset.range n,
        ((((5 / 2 : ℚ) : ℝ) + j) * ((1 / 4 : ℚ) : ℝ) / (((3 / 2 : ℚ) : ℝ) + j)) ∧
      ∑' n : ℕ, ∏ j ∈ Finset.range n,
        ((((5 / 2 : ℚ) : ℝ) + j) * ((1 / 4 : ℚ) : ℝ) / (((3 / 2 : ℚ) : ℝ) + j)) ≤ 16297 / 10000 := by
  obtain ⟨e, he, hb⟩ := exists_bounds_of_any hypSeries_quarter_bounds
  have := hb _ (hypSeries_sound _ _ _ (by norm_num) (by norm_num) (by norm_num) e he)
  push_cast at this ⊢
  exact this


/-- `hypSeries c d x` returns an interval exactly when `max x (c·x/d) < 1` and `0 < x`
(so, together with `hypSeries_sound`, every positive input with ratio bound below one is enclosed). -/
theorem hypSeries_isSome_iff (c d x : ℚ) :
    (hypSeries c d x).isSome = true ↔ max x (c * x / d) < 1 ∧ 0 < x := by
  rw [hypSeries_eq]
  split_ifs with hcond
  · exact iff_of_false (by simp) fun h => hcond.elim (not_le.mpr h.1) (not_le.mpr h.2)
  · rw [not_or, not_le, not_le] at hcond
    exact iff_of_true rfl hcond

example : (hypSeries (5 / 2) (3 / 2) (1 / 4)).isSome = true :=
  (hypSeries_isSome_iff _ _ _).mpr (by norm_num)


end MV.Special
