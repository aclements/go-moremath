import MV.Props.FactsHolds
/-! Source facts the C17 model relies on (checked against the facts regenerated from /repo on every run). -/
namespace MV.Facts

def expectedC17 : List (String × String) := [("lits:scale.TickOptions.FindLevel", "0 0 0 0 0 1 1000 1000"), ("lits:scale.Linear.spacingAtLevel", "0 1 1 1e-10 2 2 2 5"), ("lits:scale.Log.spacingAtLevel", "1e-10 2"), ("lits:scale.Linear.ebase", "0 0 1 10")]

/-- the constants and literals the C17 model mirrors are still what the source says -/
theorem facts_C17 : holdsAll expectedC17 = true := by decide +kernel


/-- State that outlives a call, as extracted from the source on this run: the package-level
variables of the packages this property's code lives in, the functions (other than `init`) that
assign to them or call methods on them, and the fields of the property's struct types. The model is
a pure function of the arguments and of these fields; a new variable, writer or field is state the
model does not know of. The digest-valued `shape:` entry covers everything the call graph
(resolved by go/types) reaches from the functions declared in the property's anchor files: per
function, method (with receiver kind), package variable and constant, its numeric literals, its comparison operators, the
package variables it reads and its writes through parameters or the receiver (including in-place
`sort.*`/`copy`/`append`). The entries behind the digest are in `shape_expected.txt` and in a
comment of the generated file. -/
def stateC17 : List (String × String) := [("globals:scale", ""), ("globalwrites:scale", ""), ("fields:scale.Linear", "Min:float64 Max:float64 Base:int Clamp:bool"), ("fields:scale.Log", "private:struct{} Min:float64 Max:float64 Base:int Clamp:bool"), ("fields:scale.TickOptions", "Max:int MinLevel:int MaxLevel:int"), ("fields:scale.linearTicker", "s:*Linear roundOut:bool"), ("fields:scale.logTicker", "s:*Log roundOut:bool"), ("shape:C17", "n=33 fnv64a=ad14cc897f66fd2e")]

/-- the source has exactly the package-level variables, writers and struct fields the model accounts for -/
theorem state_C17 : holdsAll stateC17 = true := by
  repeat (refine holdsAll_cons rfl ?_)
  exact holdsAll_nil

end MV.Facts
