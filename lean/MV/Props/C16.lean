import Mathlib.Tactic
import Mathlib.Analysis.SpecialFunctions.Log.Basic
import MV.Model.Scale
/-!
# C16 — scales: linear map/unmap laws, clamping, `NewLog` range check, QQ round trip,
and the real-valued Log-scale laws

The rational results are about the executable model in `MV/Model/Scale.lean`; the Log-scale laws
(L5) are about real-valued definitions made in this file (the model evaluates the transcendental
part through interval enclosures in the driver).
-/
namespace MV.Scale

/-! ## L1: unclamped, non-degenerate linear scale -/

section order
variable {K : Type*} [Field K] [LinearOrder K] [IsStrictOrderedRing K] {a b x y : K}

/-! The affine map `t ↦ (t − a)/(b − a)` is what both the linear and the Log scale apply (the latter
to logarithms); its laws are stated once, over any ordered field. -/

omit [LinearOrder K] [IsStrictOrderedRing K] in
lemma aff_inv_left (h : a ≠ b) : (x - a) / (b - a) * (b - a) + a = x := by
  rw [div_mul_cancel₀ _ (sub_ne_zero.2 h.symm), sub_add_cancel]

omit [LinearOrder K] [IsStrictOrderedRing K] in
lemma aff_inv_right (h : a ≠ b) : (y * (b - a) + a - a) / (b - a) = y := by
  rw [add_sub_cancel_right, mul_div_cancel_right₀ _ (sub_ne_zero.2 h.symm)]

lemma aff_lt_aff_iff_of_lt (h : a < b) : (x - a) / (b - a) < (y - a) / (b - a) ↔ x < y := by
  rw [div_lt_div_iff_of_pos_right (sub_pos.2 h), sub_lt_sub_iff_right]

lemma aff_lt_aff_iff_of_gt (h : b < a) : (x - a) / (b - a) < (y - a) / (b - a) ↔ y < x := by
  rw [div_lt_div_right_of_neg (sub_neg.2 h), sub_lt_sub_iff_right]

omit [Field K] [IsStrictOrderedRing K] in
/-- A map that preserves `<` on `s` when `a < b` and reverses it when `b < a` is strictly increasing
on `s` exactly in the first case and strictly decreasing exactly in the second (two points
`u < v` of `s` tell the cases apart). -/
lemma strictMonoOn_strictAntiOn_iff {α β : Type*} [LinearOrder α] [Preorder β] {f : α → β}
    {s : Set α} {u v : α} (hu : u ∈ s) (hv : v ∈ s) (huv : u < v) (h : a ≠ b)
    (hlt : a < b → ∀ x ∈ s, ∀ y ∈ s, (f x < f y ↔ x < y))
    (hgt : b < a → ∀ x ∈ s, ∀ y ∈ s, (f x < f y ↔ y < x)) :
    (StrictMonoOn f s ↔ a < b) ∧ (StrictAntiOn f s ↔ b < a) := by
  refine ⟨⟨fun hm => ?_, fun h' x hx y hy hxy => (hlt h' x hx y hy).2 hxy⟩,
    ⟨fun hm => ?_, fun h' x hx y hy hxy => (hgt h' y hy x hx).2 hxy⟩⟩
  · exact (lt_or_gt_of_ne h).resolve_right fun h' =>
      lt_asymm huv ((hgt h' u hu v hv).1 (hm hu hv huv))
  · exact (lt_or_gt_of_ne h).resolve_left fun h' =>
      lt_asymm huv ((hlt h' v hv u hu).1 (hm hu hv huv))

end order

lemma map_unclamped (s : Lin) (h : s.min ≠ s.max) (hc : s.clampOn = false) (x : ℚ) :
    s.map x = (x - s.min) / (s.max - s.min) := by
  simp [Lin.map, h, hc]

/-- `Map(min) = 0` on an unclamped non-degenerate linear scale. -/
theorem map_min (s : Lin) (h : s.min ≠ s.max) (hc : s.clampOn = false) : s.map s.min = 0 := by
  rw [map_unclamped s h hc]; simp

/-- `Map(max) = 1` on an unclamped non-degenerate linear scale. -/
theorem map_max (s : Lin) (h : s.min ≠ s.max) (hc : s.clampOn = false) : s.map s.max = 1 := by
  rw [map_unclamped s h hc]
  exact div_self (sub_ne_zero.2 (Ne.symm h))

/-- `Unmap ∘ Map = id` on an unclamped non-degenerate linear scale. -/
theorem unmap_map (s : Lin) (h : s.min ≠ s.max) (hc : s.clampOn = false) (x : ℚ) :
    s.unmap (s.map x) = x := by
  rw [map_unclamped s h hc]; exact aff_inv_left h

/-- `Map ∘ Unmap = id` on an unclamped non-degenerate linear scale. -/
theorem map_unmap (s : Lin) (h : s.min ≠ s.max) (hc : s.clampOn = false) (y : ℚ) :
    s.map (s.unmap y) = y := by
  rw [map_unclamped s h hc]; exact aff_inv_right h

/-- The unclamped linear map is affine in `x` with slope `1 / (max - min)`. -/
theorem map_affine (s : Lin) (h : s.min ≠ s.max) (hc : s.clampOn = false) (x : ℚ) :
    s.map x = x / (s.max - s.min) - s.min / (s.max - s.min) := by
  rw [map_unclamped s h hc, sub_div]

example : (Lin.mk 2 6 false).map 3 = 1 / 4 ∧ (Lin.mk 2 6 false).unmap (1 / 4) = 3 := by
  decide +kernel
example : (Lin.mk 2 6 false).map 3 = 3 / (6 - 2) - 2 / (6 - 2) :=
  map_affine (Lin.mk 2 6 false) (by decide) rfl 3
example : (Lin.mk 2 6 false).unmap ((Lin.mk 2 6 false).map 17) = 17 :=
  unmap_map (Lin.mk 2 6 false) (by decide) rfl 17
example : (Lin.mk 6 2 false).map ((Lin.mk 6 2 false).unmap 17) = 17 :=
  map_unmap (Lin.mk 6 2 false) (by decide) rfl 17
example : (Lin.mk 2 6 false).map 2 = 0 := map_min (Lin.mk 2 6 false) (by decide) rfl
example : (Lin.mk 2 6 false).map 6 = 1 := map_max (Lin.mk 2 6 false) (by decide) rfl

lemma map_strictMono_strictAnti_iff (s : Lin) (h : s.min ≠ s.max) (hc : s.clampOn = false) :
    (StrictMonoOn s.map Set.univ ↔ s.min < s.max) ∧ (StrictAntiOn s.map Set.univ ↔ s.max < s.min) :=
  strictMonoOn_strictAntiOn_iff (Set.mem_univ 0) (Set.mem_univ 1) zero_lt_one h
    (fun h' x _ y _ => by
      rw [map_unclamped s h hc, map_unclamped s h hc]; exact aff_lt_aff_iff_of_lt h')
    (fun h' x _ y _ => by
      rw [map_unclamped s h hc, map_unclamped s h hc]; exact aff_lt_aff_iff_of_gt h')

/-- An unclamped non-degenerate linear scale is strictly increasing iff `min < max`. -/
theorem map_strictMono_iff (s : Lin) (h : s.min ≠ s.max) (hc : s.clampOn = false) :
    StrictMono s.map ↔ s.min < s.max :=
  strictMonoOn_univ.symm.trans (map_strictMono_strictAnti_iff s h hc).1

/-- An unclamped non-degenerate linear scale is strictly decreasing iff `max < min`. -/
theorem map_strictAnti_iff (s : Lin) (h : s.min ≠ s.max) (hc : s.clampOn = false) :
    StrictAnti s.map ↔ s.max < s.min :=
  strictAntiOn_univ.symm.trans (map_strictMono_strictAnti_iff s h hc).2

example : StrictMono (Lin.mk 2 6 false).map :=
  (map_strictMono_iff _ (by decide) rfl).2 (by decide +kernel)
example : StrictAnti (Lin.mk 6 2 false).map :=
  (map_strictAnti_iff _ (by decide) rfl).2 (by decide +kernel)

/-! ## L2: clamping and the degenerate scale -/

lemma clamp_mem (y : ℚ) : 0 ≤ clamp y ∧ clamp y ≤ 1 := by
  unfold clamp
  split_ifs with h1 h2
  · exact ⟨le_refl _, zero_le_one⟩
  · exact ⟨zero_le_one, le_refl _⟩
  · exact ⟨not_lt.1 h1, not_lt.1 h2⟩

lemma clamp_of_mem (y : ℚ) (h0 : 0 ≤ y) (h1 : y ≤ 1) : clamp y = y := by
  unfold clamp
  rw [if_neg (not_lt.2 h0), if_neg (not_lt.2 h1)]

/-- A clamped linear scale always maps into `[0, 1]` (including the degenerate case). -/
theorem map_clamped_mem (s : Lin) (hc : s.clampOn = true) (x : ℚ) :
    0 ≤ s.map x ∧ s.map x ≤ 1 := by
  unfold Lin.map
  split_ifs with h
  · norm_num
  · exact clamp_mem _

/-- Inside the domain (bounds in either order) clamping has no effect: the clamped map equals the
unclamped affine map. -/
theorem map_clamped_eq (s : Lin) (h : s.min ≠ s.max) (x : ℚ)
    (hx : (s.min ≤ x ∧ x ≤ s.max) ∨ (s.max ≤ x ∧ x ≤ s.min)) :
    s.map x = (x - s.min) / (s.max - s.min) := by
  cases hc : s.clampOn
  · exact map_unclamped s h hc x
  · have e : s.map x = clamp ((x - s.min) / (s.max - s.min)) := by
      simp [Lin.map, h, hc]
    rw [e]
    rcases lt_or_gt_of_ne h with h' | h'
    · have hp := sub_pos.2 h'
      refine clamp_of_mem _ (div_nonneg ?_ hp.le) ((div_le_one hp).2 ?_) <;>
        rcases hx with hx | hx <;> linarith
    · have hn := sub_neg.2 h'
      refine clamp_of_mem _ (div_nonneg_of_nonpos ?_ hn.le) ((div_le_one_of_neg hn).2 ?_) <;>
        rcases hx with hx | hx <;> linarith

/-- Same statement phrased against the scale with clamping switched off. -/
theorem map_clamped_eq_unclamped (s : Lin) (h : s.min ≠ s.max) (x : ℚ)
    (hx : (s.min ≤ x ∧ x ≤ s.max) ∨ (s.max ≤ x ∧ x ≤ s.min)) :
    s.map x = ({ s with clampOn := false } : Lin).map x := by
  rw [map_clamped_eq s h x hx, map_unclamped { s with clampOn := false } h rfl]

/-- The degenerate scale `min = max` maps everything to `1/2` (clamped or not). -/
theorem map_degenerate (s : Lin) (h : s.min = s.max) (x : ℚ) : s.map x = 1 / 2 := by
  simp [Lin.map, h]

example : (Lin.mk 2 6 true).map 100 = 1 ∧ (Lin.mk 2 6 true).map (-100) = 0 ∧
    (Lin.mk 6 2 true).map 5 = 1 / 4 := by decide +kernel
example : 0 ≤ (Lin.mk 2 6 true).map 100 ∧ (Lin.mk 2 6 true).map 100 ≤ 1 :=
  map_clamped_mem _ rfl 100
example : (Lin.mk 6 2 true).map 5 = (5 - 6) / (2 - 6) :=
  map_clamped_eq (Lin.mk 6 2 true) (by decide) 5 (Or.inr (by decide +kernel))
example : (Lin.mk 6 2 true).map 5 = (Lin.mk 6 2 false).map 5 :=
  map_clamped_eq_unclamped (Lin.mk 6 2 true) (by decide) 5 (Or.inr (by decide +kernel))
example : (Lin.mk 3 3 true).map 77 = 1 / 2 := map_degenerate _ rfl 77

/-! ## L3: `NewLog` -/

lemma newLog_eq (a b : ℚ) (base : ℤ) :
    newLog a b base =
      if base ≤ 1 then none
      else if min a b ≤ 0 ∧ 0 ≤ max a b then none else some (min a b, max a b) := by
  unfold newLog
  by_cases h : a > b
  · have h1 : min a b = b := min_eq_right h.le
    have h2 : max a b = a := max_eq_left h.le
    simp only [h, if_true, h1, h2, ge_iff_le]
  · have h' : a ≤ b := not_lt.1 h
    have h1 : min a b = a := min_eq_left h'
    have h2 : max a b = b := max_eq_right h'
    simp only [h, if_false, h1, h2, ge_iff_le]

/-- `NewLog` succeeds exactly when the base is at least 2 and the (ordered) domain does not
contain 0. -/
theorem newLog_some_iff (a b : ℚ) (base : ℤ) :
    (newLog a b base).isSome ↔ 2 ≤ base ∧ ¬ (min a b ≤ 0 ∧ 0 ≤ max a b) := by
  rw [newLog_eq]
  split_ifs with h1 h2
  · simp only [Option.isSome_none, Bool.false_eq_true, false_iff]
    rintro ⟨h, _⟩; omega
  · simp only [Option.isSome_none, Bool.false_eq_true, false_iff]
    rintro ⟨_, h⟩; exact h h2
  · simp only [Option.isSome_some, true_iff]
    exact ⟨by omega, h2⟩

/-- When `NewLog` succeeds the stored bounds are the ordered pair `(min a b, max a b)`. -/
theorem newLog_eq_some (a b : ℚ) (base : ℤ) (p : ℚ × ℚ) (h : newLog a b base = some p) :
    p = (min a b, max a b) := by
  rw [newLog_eq] at h
  split_ifs at h
  exact (Option.some.inj h).symm

example : newLog 100 1 10 = some (1, 100) := by decide +kernel
example : (newLog 100 1 10).isSome := (newLog_some_iff 100 1 10).2 (by norm_num)
example : newLog (-1) 100 10 = none ∧ newLog 1 100 1 = none ∧ newLog 0 5 10 = none := by
  decide +kernel

/-! ## L4: QQ on linear scales -/

/-- `QQ.Unmap ∘ QQ.Map = id` for unclamped non-degenerate linear source and destination:
`QQ.Map x = dst.Unmap (src.Map x)` and `QQ.Unmap y = src.Unmap (dst.Map y)`. -/
theorem qq_unmap_map (src dst : Lin) (hs : src.min ≠ src.max) (hsc : src.clampOn = false)
    (hd : dst.min ≠ dst.max) (hdc : dst.clampOn = false) (x : ℚ) :
    src.unmap (dst.map (dst.unmap (src.map x))) = x := by
  rw [map_unmap dst hd hdc, unmap_map src hs hsc]

/-- `QQ.Map ∘ QQ.Unmap = id` for unclamped non-degenerate linear source and destination. -/
theorem qq_map_unmap (src dst : Lin) (hs : src.min ≠ src.max) (hsc : src.clampOn = false)
    (hd : dst.min ≠ dst.max) (hdc : dst.clampOn = false) (y : ℚ) :
    dst.unmap (src.map (src.unmap (dst.map y))) = y := by
  rw [map_unmap src hs hsc, unmap_map dst hd hdc]

example : (Lin.mk 2 6 false).unmap ((Lin.mk 10 0 false).map
    ((Lin.mk 10 0 false).unmap ((Lin.mk 2 6 false).map 3))) = 3 :=
  qq_unmap_map (Lin.mk 2 6 false) (Lin.mk 10 0 false) (by decide) rfl (by decide) rfl 3
example : (Lin.mk 10 0 false).unmap ((Lin.mk 2 6 false).map 3) = 15 / 2 := by decide +kernel

/-! ## L5: real-valued Log scale -/

/-- The Log-scale map on a positive domain. -/
noncomputable def logMap (mn mx x : ℝ) : ℝ :=
  (Real.log x - Real.log mn) / (Real.log mx - Real.log mn)

/-- The Log-scale inverse map on a positive domain. -/
noncomputable def logUnmap (mn mx y : ℝ) : ℝ :=
  Real.exp (y * (Real.log mx - Real.log mn) + Real.log mn)

lemma log_ne_log {mn mx : ℝ} (h1 : 0 < mn) (h2 : 0 < mx) (h : mn ≠ mx) :
    Real.log mn ≠ Real.log mx :=
  fun e => h (Real.log_injOn_pos (Set.mem_Ioi.2 h1) (Set.mem_Ioi.2 h2) e)

/-- Log scale: `Map(min) = 0`. -/
theorem logMap_min (mn mx : ℝ) : logMap mn mx mn = 0 := by
  simp [logMap]

/-- Log scale: `Map(max) = 1`. -/
theorem logMap_max (mn mx : ℝ) (h1 : 0 < mn) (h2 : 0 < mx) (h : mn ≠ mx) : logMap mn mx mx = 1 :=
  div_self (sub_ne_zero.2 (log_ne_log h1 h2 h).symm)

/-- Log scale: `Unmap (Map x) = x` for positive `x`. -/
theorem logUnmap_logMap (mn mx x : ℝ) (h1 : 0 < mn) (h2 : 0 < mx) (h : mn ≠ mx) (hx : 0 < x) :
    logUnmap mn mx (logMap mn mx x) = x := by
  unfold logUnmap logMap
  rw [aff_inv_left (log_ne_log h1 h2 h), Real.exp_log hx]

/-- Log scale: `Map (Unmap y) = y`. -/
theorem logMap_logUnmap (mn mx y : ℝ) (h1 : 0 < mn) (h2 : 0 < mx) (h : mn ≠ mx) :
    logMap mn mx (logUnmap mn mx y) = y := by
  unfold logUnmap logMap
  rw [Real.log_exp, aff_inv_right (log_ne_log h1 h2 h)]

/-- `Unmap` always lands in the positive reals. -/
theorem logUnmap_pos (mn mx y : ℝ) : 0 < logUnmap mn mx y := Real.exp_pos _

/-- Log scale map is affine in `log x`. -/
theorem logMap_affine (mn mx x : ℝ) :
    logMap mn mx x =
      Real.log x / (Real.log mx - Real.log mn) - Real.log mn / (Real.log mx - Real.log mn) := by
  unfold logMap; rw [sub_div]

lemma logMap_strictMono_strictAnti_iff (mn mx : ℝ) (h1 : 0 < mn) (h2 : 0 < mx) (h : mn ≠ mx) :
    (StrictMonoOn (logMap mn mx) (Set.Ioi 0) ↔ mn < mx) ∧
      (StrictAntiOn (logMap mn mx) (Set.Ioi 0) ↔ mx < mn) :=
  strictMonoOn_strictAntiOn_iff (Set.mem_Ioi.2 one_pos) (Set.mem_Ioi.2 two_pos) one_lt_two h
    (fun h' _ hx _ hy =>
      (aff_lt_aff_iff_of_lt (Real.log_lt_log h1 h')).trans (Real.log_lt_log_iff hx hy))
    (fun h' _ hx _ hy =>
      (aff_lt_aff_iff_of_gt (Real.log_lt_log h2 h')).trans (Real.log_lt_log_iff hy hx))

/-- The Log-scale map is strictly increasing on the positive reals iff `mn < mx`. -/
theorem logMap_strictMonoOn_iff (mn mx : ℝ) (h1 : 0 < mn) (h2 : 0 < mx) (h : mn ≠ mx) :
    StrictMonoOn (logMap mn mx) (Set.Ioi 0) ↔ mn < mx :=
  (logMap_strictMono_strictAnti_iff mn mx h1 h2 h).1

/-- The Log-scale map is strictly decreasing on the positive reals iff `mx < mn`. -/
theorem logMap_strictAntiOn_iff (mn mx : ℝ) (h1 : 0 < mn) (h2 : 0 < mx) (h : mn ≠ mx) :
    StrictAntiOn (logMap mn mx) (Set.Ioi 0) ↔ mx < mn :=
  (logMap_strictMono_strictAnti_iff mn mx h1 h2 h).2

example : logMap 1 100 100 = 1 := logMap_max 1 100 (by norm_num) (by norm_num) (by norm_num)
example : logUnmap 1 100 (logMap 1 100 10) = 10 :=
  logUnmap_logMap 1 100 10 (by norm_num) (by norm_num) (by norm_num) (by norm_num)
example : logMap 1 100 (logUnmap 1 100 (1 / 2)) = 1 / 2 :=
  logMap_logUnmap 1 100 (1 / 2) (by norm_num) (by norm_num) (by norm_num)
example : StrictMonoOn (logMap 1 100) (Set.Ioi 0) :=
  (logMap_strictMonoOn_iff 1 100 (by norm_num) (by norm_num) (by norm_num)).2 (by norm_num)
example : StrictAntiOn (logMap 100 1) (Set.Ioi 0) :=
  (logMap_strictAntiOn_iff 100 1 (by norm_num) (by norm_num) (by norm_num)).2 (by norm_num)

/-- The folded Log-scale map for a negative domain `mn, mx < 0`. -/
noncomputable def logMapNeg (mn mx x : ℝ) : ℝ := 1 - logMap (-mx) (-mn) (-x)

/-- Its inverse. -/
noncomputable def logUnmapNeg (mn mx y : ℝ) : ℝ := -logUnmap (-mx) (-mn) (1 - y)

/-- Negative-domain Log scale: `Map(min) = 0`. -/
theorem logMapNeg_min (mn mx : ℝ) (h1 : mn < 0) (h2 : mx < 0) (h : mn ≠ mx) :
    logMapNeg mn mx mn = 0 := by
  unfold logMapNeg
  rw [logMap_max (-mx) (-mn) (by linarith) (by linarith) (by intro e; exact h (by linarith))]
  ring

/-- Negative-domain Log scale: `Map(max) = 1`. -/
theorem logMapNeg_max (mn mx : ℝ) : logMapNeg mn mx mx = 1 := by
  unfold logMapNeg
  rw [logMap_min]; ring

/-- Negative-domain Log scale: `Unmap (Map x) = x` for negative `x`. -/
theorem logUnmapNeg_logMapNeg (mn mx x : ℝ) (h1 : mn < 0) (h2 : mx < 0) (h : mn ≠ mx)
    (hx : x < 0) : logUnmapNeg mn mx (logMapNeg mn mx x) = x := by
  unfold logUnmapNeg logMapNeg
  rw [sub_sub_cancel, logUnmap_logMap (-mx) (-mn) (-x) (by linarith) (by linarith)
    (by intro e; exact h (by linarith)) (by linarith)]
  ring

/-- Negative-domain Log scale: `Map (Unmap y) = y`. -/
theorem logMapNeg_logUnmapNeg (mn mx y : ℝ) (h1 : mn < 0) (h2 : mx < 0) (h : mn ≠ mx) :
    logMapNeg mn mx (logUnmapNeg mn mx y) = y := by
  unfold logUnmapNeg logMapNeg
  rw [neg_neg, logMap_logUnmap (-mx) (-mn) (1 - y) (by linarith) (by linarith)
    (by intro e; exact h (by linarith))]
  ring

/-- `Unmap` on a negative domain always lands in the negative reals. -/
theorem logUnmapNeg_neg (mn mx y : ℝ) : logUnmapNeg mn mx y < 0 := by
  unfold logUnmapNeg
  have := logUnmap_pos (-mx) (-mn) (1 - y)
  linarith

/-- Folding `x ↦ 1 - g (-x)` carries strict monotonicity on the positive reals to the negative reals. -/
lemma strictMonoOn_fold (g : ℝ → ℝ) :
    StrictMonoOn (fun x => 1 - g (-x)) (Set.Iio 0) ↔ StrictMonoOn g (Set.Ioi 0) := by
  constructor
  · intro hm a ha b hb hab
    have := hm (Set.mem_Iio.2 (neg_lt_zero.2 hb)) (Set.mem_Iio.2 (neg_lt_zero.2 ha)) (neg_lt_neg hab)
    simpa using this
  · intro hm a ha b hb hab
    exact sub_lt_sub_left
      (hm (Set.mem_Ioi.2 (neg_pos.2 hb)) (Set.mem_Ioi.2 (neg_pos.2 ha)) (neg_lt_neg hab)) 1

lemma strictAntiOn_fold (g : ℝ → ℝ) :
    StrictAntiOn (fun x => 1 - g (-x)) (Set.Iio 0) ↔ StrictAntiOn g (Set.Ioi 0) := by
  constructor
  · intro hm a ha b hb hab
    have := hm (Set.mem_Iio.2 (neg_lt_zero.2 hb)) (Set.mem_Iio.2 (neg_lt_zero.2 ha)) (neg_lt_neg hab)
    simpa using this
  · intro hm a ha b hb hab
    exact sub_lt_sub_left
      (hm (Set.mem_Ioi.2 (neg_pos.2 hb)) (Set.mem_Ioi.2 (neg_pos.2 ha)) (neg_lt_neg hab)) 1

/-- The folded negative-domain Log map is strictly increasing on the negative reals iff
`mn < mx`. -/
theorem logMapNeg_strictMonoOn_iff (mn mx : ℝ) (h1 : mn < 0) (h2 : mx < 0) (h : mn ≠ mx) :
    StrictMonoOn (logMapNeg mn mx) (Set.Iio 0) ↔ mn < mx := by
  unfold logMapNeg
  rw [strictMonoOn_fold, logMap_strictMonoOn_iff (-mx) (-mn) (neg_pos.2 h2) (neg_pos.2 h1)
    (fun e => h (neg_injective e).symm), neg_lt_neg_iff]

/-- The folded negative-domain Log map is strictly decreasing on the negative reals iff
`mx < mn`. -/
theorem logMapNeg_strictAntiOn_iff (mn mx : ℝ) (h1 : mn < 0) (h2 : mx < 0) (h : mn ≠ mx) :
    StrictAntiOn (logMapNeg mn mx) (Set.Iio 0) ↔ mx < mn := by
  unfold logMapNeg
  rw [strictAntiOn_fold, logMap_strictAntiOn_iff (-mx) (-mn) (neg_pos.2 h2) (neg_pos.2 h1)
    (fun e => h (neg_injective e).symm), neg_lt_neg_iff]

/-- The folded negative-domain map is affine in `log (-x)`. -/
theorem logMapNeg_affine (mn mx x : ℝ) :
    logMapNeg mn mx x =
      1 + Real.log (-mx) / (Real.log (-mn) - Real.log (-mx)) -
        Real.log (-x) / (Real.log (-mn) - Real.log (-mx)) := by
  unfold logMapNeg; rw [logMap_affine]; ring

example : logMapNeg (-100) (-1) (-100) = 0 :=
  logMapNeg_min (-100) (-1) (by norm_num) (by norm_num) (by norm_num)
example : logUnmapNeg (-100) (-1) (logMapNeg (-100) (-1) (-10)) = -10 :=
  logUnmapNeg_logMapNeg (-100) (-1) (-10) (by norm_num) (by norm_num) (by norm_num) (by norm_num)
example : StrictMonoOn (logMapNeg (-100) (-1)) (Set.Iio 0) :=
  (logMapNeg_strictMonoOn_iff (-100) (-1) (by norm_num) (by norm_num) (by norm_num)).2
    (by norm_num)

end MV.Scale
