import Mathlib.Tactic
import Mathlib.Data.List.GetD
import MV.Model.Fit
/-!
# C15 — exact-rational least squares (`MV/Model/Fit.lean`)

* L1: the normal equations characterise the weighted least-squares minimiser
  (`sse_decomp`, `quad_nonneg`, `normal_eq_minimises`, `normal_eq_iff_orthogonal`);
* L2: `polyEval` is the polynomial `Σ cᵢ xⁱ`, `rpow` is `^`;
* L3: polynomial data are reproduced (`poly_data_normal_eq`) and, with enough distinct
  positively weighted abscissae, uniquely so (`poly_data_unique`);
* L4: Gauss–Jordan `solve` is sound (`solve_sound`), hence `solve_normal_minimises`;
* L5: tricube weights; L6: the LOESS window holds the `q` nearest neighbours.

All list entries are read with `List.getD · 0`, so rows of `XT` shorter than `n` are zero-padded
and longer ones are truncated exactly as the model's `zip`-based `dot` does; this is why the L1
results carry no hypothesis on the row lengths of `XT` (only on the lengths of `w`, `y` and the coefficient vectors).
-/
namespace MV.Fit
open Finset

/-! ## Bridging lists to finite sums -/

lemma foldl_dot_aux (l : List (ℚ × ℚ)) (s : ℚ) :
    l.foldl (fun s (p : ℚ × ℚ) => s + p.1 * p.2) s = s + l.foldl (fun s (p : ℚ × ℚ) => s + p.1 * p.2) 0 := by
  induction l generalizing s with
  | nil => simp
  | cons a l ih => simp only [List.foldl_cons]; rw [ih, ih (0 + _)]; ring

lemma dot_nil_left (b : Vec) : dot [] b = 0 := by simp [dot]
lemma dot_nil_right (a : Vec) : dot a [] = 0 := by simp [dot]
lemma dot_cons (x y : ℚ) (a b : Vec) : dot (x :: a) (y :: b) = x * y + dot a b := by
  unfold dot
  simp only [List.zip_cons_cons, List.foldl_cons]
  rw [foldl_dot_aux]; ring

/-- `dot` as a finite sum (out-of-range entries read as 0). -/
lemma dot_eq_sum (a b : Vec) (N : ℕ) (h : min a.length b.length ≤ N) :
    dot a b = ∑ k ∈ range N, a.getD k 0 * b.getD k 0 := by
  induction a generalizing b N with
  | nil => simp only [dot_nil_left, List.getD_nil, zero_mul, Finset.sum_const_zero]
  | cons x a ih =>
    cases b with
    | nil => simp only [dot_nil_right, List.getD_nil, mul_zero, Finset.sum_const_zero]
    | cons y b =>
      simp only [List.length_cons] at h
      obtain ⟨N, rfl⟩ : ∃ M, N = M + 1 := ⟨N - 1, by omega⟩
      rw [dot_cons, Finset.sum_range_succ', ih b N (by omega), add_comm]
      rfl

lemma sum_map_range (f : ℕ → ℚ) (n : ℕ) : ((List.range n).map f).sum = ∑ k ∈ range n, f k := by
  induction n with
  | zero => simp
  | succ n ih => rw [List.sum_range_succ, Finset.sum_range_succ, ih]

/-! ## Least-squares algebra for matrices and vectors given as functions `ℕ → ℚ`

The lemmas named `…_fn` are the L1 identities at this level; the model's lists are brought to it by
`getD`. -/

section Abstract
variable (m n : ℕ) (X : ℕ → ℕ → ℚ) (W y : ℕ → ℚ)

/-- entry `(i,j)` of the weighted Gram matrix `X W Xᵀ` (the normal matrix) -/
def gram (i j : ℕ) : ℚ := ∑ k ∈ range n, X i k * W k * X j k
/-- fitted value at data point `k` for the parameter function `b` -/
def fitF (b : ℕ → ℚ) (k : ℕ) : ℚ := ∑ i ∈ range m, X i k * b i

lemma orth_iff_fn (b : ℕ → ℚ) (i : ℕ) :
    (∑ k ∈ range n, X i k * W k * (y k - fitF m X b k)) = 0 ↔
      ∑ j ∈ range m, gram n X W i j * b j = ∑ k ∈ range n, X i k * W k * y k := by
  have : (∑ k ∈ range n, X i k * W k * (y k - fitF m X b k)) =
      (∑ k ∈ range n, X i k * W k * y k) - ∑ j ∈ range m, gram n X W i j * b j := by
    simp only [mul_sub, Finset.sum_sub_distrib, gram, fitF, Finset.mul_sum, Finset.sum_mul]
    congr 1
    rw [Finset.sum_comm]
    refine Finset.sum_congr rfl fun j _ => Finset.sum_congr rfl fun k _ => ?_
    ring
  rw [this, sub_eq_zero, eq_comm]

lemma quad_fn (d : ℕ → ℚ) :
    ∑ i ∈ range m, d i * ∑ j ∈ range m, gram n X W i j * d j =
      ∑ k ∈ range n, W k * (fitF m X d k) ^ 2 := by
  simp only [gram, fitF, pow_two, Finset.mul_sum, Finset.sum_mul]
  symm
  rw [Finset.sum_comm]
  refine Finset.sum_congr rfl fun a _ => ?_
  rw [Finset.sum_comm]
  refine Finset.sum_congr rfl fun b _ => Finset.sum_congr rfl fun k _ => ?_
  ring

lemma fitF_sub (b b' : ℕ → ℚ) (k : ℕ) :
    fitF m X b' k = fitF m X b k + fitF m X (fun i => b' i - b i) k := by
  simp only [fitF, ← Finset.sum_add_distrib]
  exact Finset.sum_congr rfl fun i _ => by ring

lemma cross_fn (b d : ℕ → ℚ)
    (hne : ∀ i < m, ∑ j ∈ range m, gram n X W i j * b j = ∑ k ∈ range n, X i k * W k * y k) :
    ∑ k ∈ range n, W k * (y k - fitF m X b k) * fitF m X d k = 0 := by
  have h1 : ∑ k ∈ range n, W k * (y k - fitF m X b k) * fitF m X d k =
      ∑ i ∈ range m, d i * ∑ k ∈ range n, X i k * W k * (y k - fitF m X b k) := by
    have hd : ∀ k, fitF m X d k = ∑ i ∈ range m, X i k * d i := fun _ => rfl
    simp only [hd, Finset.mul_sum]
    rw [Finset.sum_comm]
    refine Finset.sum_congr rfl fun i _ => Finset.sum_congr rfl fun k _ => ?_
    ring
  rw [h1]
  refine Finset.sum_eq_zero fun i hi => ?_
  rw [(orth_iff_fn m n X W y b i).2 (hne i (Finset.mem_range.1 hi)), mul_zero]

lemma decomp_fn (b b' : ℕ → ℚ)
    (hne : ∀ i < m, ∑ j ∈ range m, gram n X W i j * b j = ∑ k ∈ range n, X i k * W k * y k) :
    (∑ k ∈ range n, W k * (y k - fitF m X b' k) ^ 2) - ∑ k ∈ range n, W k * (y k - fitF m X b k) ^ 2 =
      ∑ i ∈ range m, (b' i - b i) * ∑ j ∈ range m, gram n X W i j * (b' j - b j) := by
  rw [quad_fn m n X W (fun i => b' i - b i)]
  have hc := cross_fn m n X W y b (fun i => b' i - b i) hne
  rw [← Finset.sum_sub_distrib]
  have : ∀ k ∈ range n, W k * (y k - fitF m X b' k) ^ 2 - W k * (y k - fitF m X b k) ^ 2 =
      W k * fitF m X (fun i => b' i - b i) k ^ 2
        - 2 * (W k * (y k - fitF m X b k) * fitF m X (fun i => b' i - b i) k) := by
    intro k _
    rw [fitF_sub m X b b' k]; ring
  rw [Finset.sum_congr rfl this, Finset.sum_sub_distrib, ← Finset.mul_sum, hc]
  ring

end Abstract

/-! ## Bridging the model definitions -/

/-- matrix entry, out-of-range read as 0 -/
def ent (XT : Mat) (i k : ℕ) : ℚ := (XT.getD i []).getD k 0

/-- fitted value at data point `k`: literally the inner expression of `sse` -/
def fitAt (XT : Mat) (β : Vec) (k : ℕ) : ℚ := dot (XT.map fun row => row.getD k 0) β

/-- componentwise difference `a - b` -/
def vsub (a b : Vec) : Vec := List.zipWith (· - ·) a b

lemma getD_map_zero {α : Type} (l : List α) (f : α → ℚ) (d : α) (hf : f d = 0) (i : ℕ) :
    (l.map f).getD i 0 = f (l.getD i d) := by
  simp only [List.getD_eq_getElem?_getD, List.getElem?_map]
  cases l[i]? <;> simp [hf]

lemma fitAt_eq (XT : Mat) (β : Vec) (k : ℕ) :
    fitAt XT β k = fitF XT.length (ent XT) (fun i => β.getD i 0) k := by
  unfold fitAt fitF
  rw [dot_eq_sum _ _ XT.length (by simp)]
  refine Finset.sum_congr rfl fun i _ => ?_
  rw [getD_map_zero XT _ [] (by simp)]; rfl

/-- `sse` as a finite sum; the fitted value inside it is the model expression named `fitAt`. -/
theorem sse_eq_sum (XT : Mat) (w y β : Vec) :
    sse XT w y β = ∑ k ∈ range y.length, w.getD k 1 * (y.getD k 0 - fitAt XT β k) ^ 2 := by
  have : sse XT w y β = (((List.range y.length).map fun i =>
      w.getD i 1 * (y.getD i 0 - fitAt XT β i) * (y.getD i 0 - fitAt XT β i)).foldl (· + ·) 0) := rfl
  rw [this, ← List.sum_eq_foldl, sum_map_range]
  exact Finset.sum_congr rfl fun k _ => by ring

lemma getD_one_eq_zero (w : Vec) (k : ℕ) (h : k < w.length) : w.getD k 1 = w.getD k 0 := by
  rw [List.getD_eq_getElem _ _ h, List.getD_eq_getElem _ _ h]

/-- row scaled by weights -/
def wrow (r w : Vec) : Vec := (r.zip w).map fun (a, b) => a * b

lemma wrow_getD (r w : Vec) (k : ℕ) : (wrow r w).getD k 0 = r.getD k 0 * w.getD k 0 := by
  simp only [wrow, List.zip_eq_zipWith, List.map_zipWith, List.getD_eq_getElem?_getD,
    List.getElem?_zipWith]
  cases r[k]? <;> cases w[k]? <;> simp

lemma wrow_length (r w : Vec) : (wrow r w).length = min r.length w.length := by simp [wrow]

lemma dot_wrow (r w c : Vec) (n : ℕ) (h : w.length ≤ n) :
    dot (wrow r w) c = ∑ k ∈ range n, r.getD k 0 * w.getD k 0 * c.getD k 0 := by
  rw [dot_eq_sum _ _ n (by rw [wrow_length]; omega)]
  exact Finset.sum_congr rfl fun k _ => by rw [wrow_getD]

lemma normalMatrix_length (XT : Mat) (w : Vec) : (normalMatrix XT w).length = XT.length := by
  simp [normalMatrix]

lemma matVec_normal_getD (XT : Mat) (w v : Vec) (n : ℕ) (hw : w.length ≤ n) (i : ℕ) (hi : i < XT.length) :
    (matVec (normalMatrix XT w) v).getD i 0 =
      ∑ j ∈ range XT.length, gram n (ent XT) (fun k => w.getD k 0) i j * v.getD j 0 := by
  have h1 : (matVec (normalMatrix XT w) v).getD i 0 =
      dot (XT.map fun rj => dot (wrow XT[i] w) rj) v := by
    simp [matVec, normalMatrix, List.getD_eq_getElem?_getD, hi, wrow]
  rw [h1, dot_eq_sum _ _ XT.length (by simp)]
  refine Finset.sum_congr rfl fun j _ => ?_
  rw [getD_map_zero XT _ [] (dot_nil_right _), dot_wrow _ _ _ n hw]
  unfold gram ent
  simp [List.getD_eq_getElem?_getD, hi]

lemma normalRhs_getD (XT : Mat) (w y : Vec) (n : ℕ) (hw : w.length ≤ n) (i : ℕ) (hi : i < XT.length) :
    (normalRhs XT w y).getD i 0 = ∑ k ∈ range n, ent XT i k * w.getD k 0 * y.getD k 0 := by
  have h1 : (normalRhs XT w y).getD i 0 = dot (wrow XT[i] w) y := by
    simp [normalRhs, List.getD_eq_getElem?_getD, hi, wrow]
  rw [h1, dot_wrow _ _ _ n hw]
  unfold ent
  simp [List.getD_eq_getElem?_getD, hi]

lemma list_eq_iff_getD (a b : Vec) (m : ℕ) (ha : a.length = m) (hb : b.length = m) :
    a = b ↔ ∀ i < m, a.getD i 0 = b.getD i 0 := by
  constructor
  · rintro rfl; simp
  · intro h
    refine List.ext_getElem (by omega) fun i h1 h2 => ?_
    have := h i (by omega)
    simpa [List.getD_eq_getElem?_getD, h1, h2] using this

lemma normal_eq_iff_fn (XT : Mat) (w y β : Vec) (hw : w.length = y.length) :
    matVec (normalMatrix XT w) β = normalRhs XT w y ↔
      ∀ i < XT.length, ∑ j ∈ range XT.length,
        gram y.length (ent XT) (fun k => w.getD k 0) i j * β.getD j 0 =
          ∑ k ∈ range y.length, ent XT i k * w.getD k 0 * y.getD k 0 := by
  rw [list_eq_iff_getD _ _ XT.length (by simp [matVec, normalMatrix]) (by simp [normalRhs])]
  refine forall_congr' fun i => forall_congr' fun hi => ?_
  rw [matVec_normal_getD XT w β y.length hw.le i hi, normalRhs_getD XT w y y.length hw.le i hi]

/-- For lists of equal length, `zipWith` commutes with reading entries with default `0`. -/
lemma getD_zipWith (g : ℚ → ℚ → ℚ) (hg : g 0 0 = 0) (a b : Vec) (h : a.length = b.length) (i : ℕ) :
    (List.zipWith g a b).getD i 0 = g (a.getD i 0) (b.getD i 0) := by
  simp only [List.getD_eq_getElem?_getD, List.getElem?_zipWith]
  rcases lt_or_ge i a.length with hi | hi
  · rw [List.getElem?_eq_getElem hi, List.getElem?_eq_getElem (h ▸ hi)]; rfl
  · rw [List.getElem?_eq_none hi, List.getElem?_eq_none (h ▸ hi)]; exact hg.symm

lemma vsub_getD (a b : Vec) (h : a.length = b.length) (i : ℕ) :
    (vsub a b).getD i 0 = a.getD i 0 - b.getD i 0 :=
  getD_zipWith (· - ·) (sub_zero 0) a b h i

lemma vsub_length (a b : Vec) : (vsub a b).length = min a.length b.length := by simp [vsub]

/-! ## L1: the normal equations characterise the least-squares minimiser -/

/-- **Quadratic form.** `v · (XᵀWX) v = Σ_k w_k (Σ_i v_i XT[i][k])²` (out-of-range entries read as 0;
the inner sum is the model's own fitted value `fitAt XT v k`), for lists of any shape. -/
theorem quad_eq_sum_sq (XT : Mat) (w v : Vec) :
    dot v (matVec (normalMatrix XT w) v) =
      ∑ k ∈ range w.length, w.getD k 0 * (fitAt XT v k) ^ 2 := by
  simp only [fitAt_eq]
  rw [← quad_fn, dot_eq_sum _ _ XT.length (by simp [matVec, normalMatrix])]
  refine Finset.sum_congr rfl fun i hi => ?_
  rw [matVec_normal_getD XT w v w.length le_rfl i (Finset.mem_range.1 hi)]

/-- With non-negative weights the normal matrix `XᵀWX` is positive semi-definite:
`0 ≤ v · (XᵀWX) v` for every vector `v`. -/
theorem quad_nonneg (XT : Mat) (w v : Vec) (hw : ∀ x ∈ w, 0 ≤ x) :
    0 ≤ dot v (matVec (normalMatrix XT w) v) := by
  rw [quad_eq_sum_sq]
  refine Finset.sum_nonneg fun k hk => mul_nonneg ?_ (sq_nonneg _)
  rw [List.getD_eq_getElem _ _ (Finset.mem_range.1 hk)]
  exact hw _ (List.getElem_mem _)

/-- **Main decomposition.** If `β` solves the normal equations `(XᵀWX) β = XᵀW y`, then for every
other parameter vector `β'` the weighted sums of squared residuals differ by exactly the quadratic
form of the normal matrix at `β' − β`:
`sse β' − sse β = (β'−β) · (XᵀWX)(β'−β)`.
Shapes: `w` and `y` have the same length `n`, `β` and `β'` have one entry per basis row of `XT`.
(Rows of `XT` of any length: they are read with default 0.) -/
theorem sse_decomp (XT : Mat) (w y β β' : Vec) (hw : w.length = y.length)
    (hβ : β.length = XT.length) (hβ' : β'.length = XT.length)
    (hne : matVec (normalMatrix XT w) β = normalRhs XT w y) :
    sse XT w y β' - sse XT w y β =
      dot (vsub β' β) (matVec (normalMatrix XT w) (vsub β' β)) := by
  have habs := (normal_eq_iff_fn XT w y β hw).1 hne
  have key := decomp_fn XT.length y.length (ent XT) (fun k => w.getD k 0) (fun k => y.getD k 0)
    (fun i => β.getD i 0) (fun i => β'.getD i 0) habs
  have hs : ∀ b : Vec, sse XT w y b = ∑ k ∈ range y.length,
      w.getD k 0 * (y.getD k 0 - fitF XT.length (ent XT) (fun i => b.getD i 0) k) ^ 2 := by
    intro b
    rw [sse_eq_sum]
    refine Finset.sum_congr rfl fun k hk => ?_
    rw [getD_one_eq_zero w k (by rw [hw]; exact Finset.mem_range.1 hk), fitAt_eq]
  rw [hs β', hs β, key, dot_eq_sum _ _ XT.length (by simp [matVec, normalMatrix])]
  refine Finset.sum_congr rfl fun i hi => ?_
  rw [matVec_normal_getD XT w _ y.length hw.le i (Finset.mem_range.1 hi),
    vsub_getD β' β (by omega)]
  congr 1
  exact Finset.sum_congr rfl fun j _ => by rw [vsub_getD β' β (by omega)]

/-- **Normal equations ⇒ least-squares minimiser.** With non-negative weights, a solution `β` of the
normal equations has weighted SSE no larger than that of any other parameter vector `β'`. -/
theorem normal_eq_minimises (XT : Mat) (w y β β' : Vec) (hw : w.length = y.length)
    (hβ : β.length = XT.length) (hβ' : β'.length = XT.length) (hpos : ∀ x ∈ w, 0 ≤ x)
    (hne : matVec (normalMatrix XT w) β = normalRhs XT w y) :
    sse XT w y β ≤ sse XT w y β' := by
  have h := sse_decomp XT w y β β' hw hβ hβ' hne
  have := quad_nonneg XT w (vsub β' β) hpos
  linarith

/-- **Orthogonality.** The normal equations hold iff the weighted residual is orthogonal to every
basis function: for every basis row `i`, `Σ_k XT[i][k] · w[k] · (y[k] − fit_k(β)) = 0`, where
`fit_k(β) = fitAt XT β k` is exactly the fitted value used inside `sse`. -/
theorem normal_eq_iff_orthogonal (XT : Mat) (w y β : Vec) (hw : w.length = y.length) :
    matVec (normalMatrix XT w) β = normalRhs XT w y ↔
      ∀ i < XT.length, ∑ k ∈ range y.length,
        (XT.getD i []).getD k 0 * w.getD k 0 * (y.getD k 0 - fitAt XT β k) = 0 := by
  rw [normal_eq_iff_fn XT w y β hw]
  refine forall_congr' fun i => forall_congr' fun _ => ?_
  rw [← orth_iff_fn]
  simp only [fitAt_eq]; rfl

section Examples
def exXT : Mat := [[1, 1, 1], [0, 1, 2]]
def exW : Vec := [1, 2, 1]
def exY : Vec := [1, 2, 4]
def exβ : Vec := [3/4, 3/2]

lemma exβ_normal_eq : matVec (normalMatrix exXT exW) exβ = normalRhs exXT exW exY := by decide +kernel
lemma exW_nonneg : ∀ x ∈ exW, 0 ≤ x := by decide +kernel

example : matVec (normalMatrix exXT exW) exβ = normalRhs exXT exW exY := exβ_normal_eq
example : sse exXT exW exY exβ ≤ sse exXT exW exY [1, 1] :=
  normal_eq_minimises exXT exW exY exβ [1, 1] rfl rfl rfl exW_nonneg exβ_normal_eq
example : sse exXT exW exY [1, 1] - sse exXT exW exY exβ =
    dot (vsub [1, 1] exβ) (matVec (normalMatrix exXT exW) (vsub [1, 1] exβ)) :=
  sse_decomp exXT exW exY exβ [1, 1] rfl rfl rfl exβ_normal_eq
example : sse exXT exW exY [1, 1] = 1 ∧ sse exXT exW exY exβ = 1/4 := by decide +kernel
example : 0 ≤ dot [1, -2] (matVec (normalMatrix exXT exW) [1, -2]) :=
  quad_nonneg exXT exW [1, -2] exW_nonneg
example : ∀ i < exXT.length, ∑ k ∈ range exY.length,
    (exXT.getD i []).getD k 0 * exW.getD k 0 * (exY.getD k 0 - fitAt exXT exβ k) = 0 :=
  (normal_eq_iff_orthogonal exXT exW exY exβ rfl).1 exβ_normal_eq
example : dot [1, -2] (matVec (normalMatrix exXT exW) [1, -2]) =
    ∑ k ∈ range exW.length, exW.getD k 0 * (fitAt exXT [1, -2] k) ^ 2 :=
  quad_eq_sum_sq exXT exW [1, -2]
end Examples

/-! ## L2: `polyEval` and `rpow` -/

/-- `rpow x k` is the ordinary power `x ^ k`. -/
theorem rpow_eq_pow (x : ℚ) (k : ℕ) : rpow x k = x ^ k := by
  unfold rpow
  rw [List.foldl_const, List.length_range, mul_right_iterate]; exact one_mul _

example : rpow (2/3) 3 = 8/27 := by decide +kernel

lemma polyEval_foldl (cs : Vec) (x y xp : ℚ) :
    cs.foldl (fun (p : ℚ × ℚ) c => (p.1 + p.2 * c, p.2 * x)) (y, xp) =
      (y + ∑ i ∈ range cs.length, cs.getD i 0 * (xp * x ^ i), xp * x ^ cs.length) := by
  induction cs generalizing y xp with
  | nil => simp
  | cons c cs ih =>
    rw [List.foldl_cons, ih, List.length_cons, Finset.sum_range_succ']
    refine Prod.ext ?_ ?_
    · simp only [List.getD_cons_succ, List.getD_cons_zero, pow_zero, mul_one, pow_succ]
      rw [add_assoc, add_comm (xp * c), mul_comm xp c]
      congr 2
      exact Finset.sum_congr rfl fun i _ => by ring
    · simp only [pow_succ]; ring

/-- `polyEval` (the Go loop `y = c0; xp = x; for c in coeffs[1:] { y += xp*c; xp *= x }`) computes
the polynomial `Σ_{i < len} coeffs[i] · x^i`. -/
theorem polyEval_eq (coeffs : Vec) (x : ℚ) :
    polyEval coeffs x = ∑ i ∈ range coeffs.length, coeffs.getD i 0 * x ^ i := by
  cases coeffs with
  | nil => simp [polyEval]
  | cons c0 cs =>
    have : polyEval (c0 :: cs) x =
        (cs.foldl (fun (p : ℚ × ℚ) c => (p.1 + p.2 * c, p.2 * x)) (c0, x)).1 := rfl
    rw [this, polyEval_foldl, List.length_cons, Finset.sum_range_succ']
    simp only [List.getD_cons_succ, List.getD_cons_zero, pow_zero, mul_one, pow_succ]
    rw [add_comm]
    congr 1
    exact Finset.sum_congr rfl fun i _ => by ring

/-- The same with the model's own power function `rpow`. -/
theorem polyEval_eq_rpow (coeffs : Vec) (x : ℚ) :
    polyEval coeffs x = ∑ i ∈ range coeffs.length, coeffs.getD i 0 * rpow x i := by
  rw [polyEval_eq]; exact Finset.sum_congr rfl fun i _ => by rw [rpow_eq_pow]

example : polyEval [1, -2, 3] (1/2) = 1 * (1/2)^0 + (-2) * (1/2)^1 + 3 * (1/2)^2 := by
  decide +kernel

/-! ## L3: polynomial reproduction -/

lemma monomials_length (xs : Vec) (degree : ℕ) : (monomials xs degree).length = degree + 1 := by
  simp [monomials]

lemma ent_monomials (xs : Vec) (degree i k : ℕ) (hi : i < degree + 1) :
    ent (monomials xs degree) i k = if k < xs.length then (xs.getD k 0) ^ i else 0 := by
  unfold ent monomials
  have : ((List.range (degree + 1)).map fun d => xs.map fun x => rpow x d).getD i [] =
      xs.map fun x => rpow x i := by
    simp [List.getD_eq_getElem?_getD, hi]
  rw [this]
  by_cases hk : k < xs.length
  · simp [List.getD_eq_getElem?_getD, hk, rpow_eq_pow]
  · simp [List.getD_eq_getElem?_getD, hk]

lemma fitAt_monomials (xs β : Vec) (degree k : ℕ) (hk : k < xs.length) :
    fitAt (monomials xs degree) β k = ∑ i ∈ range (degree + 1), β.getD i 0 * (xs.getD k 0) ^ i := by
  rw [fitAt_eq, fitF, monomials_length]
  refine Finset.sum_congr rfl fun i hi => ?_
  rw [ent_monomials xs degree i k (Finset.mem_range.1 hi), if_pos hk, mul_comm]

lemma polyData_getD (xs c : Vec) (degree k : ℕ) (hk : k < xs.length) :
    (xs.map fun x => ∑ i ∈ range (degree + 1), c.getD i 0 * x ^ i).getD k 0 =
      ∑ i ∈ range (degree + 1), c.getD i 0 * (xs.getD k 0) ^ i := by
  simp [List.getD_eq_getElem?_getD, hk]

/-- **Polynomial reproduction.** If the data are exactly polynomial, `ys[k] = Σ_i c_i · xs[k]^i` with
`degree+1` coefficients, then the true coefficient vector `c` satisfies the normal equations of the
monomial design `monomials xs degree`, for any weights. -/
theorem poly_data_normal_eq (xs w c : Vec) (degree : ℕ) (hw : w.length = xs.length) :
    matVec (normalMatrix (monomials xs degree) w) c =
      normalRhs (monomials xs degree) w
        (xs.map fun x => ∑ i ∈ range (degree + 1), c.getD i 0 * x ^ i) := by
  rw [normal_eq_iff_orthogonal _ _ _ _ (by simpa using hw)]
  intro i _
  refine Finset.sum_eq_zero fun k hk => ?_
  have hk' : k < xs.length := by simpa using hk
  rw [polyData_getD xs c degree k hk', fitAt_monomials xs c degree k hk', sub_self, mul_zero]

/-- The same statement with the data generated by the model's own `polyEval`. -/
theorem poly_data_normal_eq_polyEval (xs w c : Vec) (degree : ℕ) (hc : c.length = degree + 1)
    (hw : w.length = xs.length) :
    matVec (normalMatrix (monomials xs degree) w) c =
      normalRhs (monomials xs degree) w (xs.map fun x => polyEval c x) := by
  have : (fun x => polyEval c x) = fun x => ∑ i ∈ range (degree + 1), c.getD i 0 * x ^ i := by
    funext x; rw [polyEval_eq, hc]
  rw [this]; exact poly_data_normal_eq xs w c degree hw

/-- Exactly polynomial data are fitted with zero SSE by the true coefficients. -/
theorem poly_data_sse_zero (xs w c : Vec) (degree : ℕ) :
    sse (monomials xs degree) w
      (xs.map fun x => ∑ i ∈ range (degree + 1), c.getD i 0 * x ^ i) c = 0 := by
  rw [sse_eq_sum]
  refine Finset.sum_eq_zero fun k hk => ?_
  have hk' : k < xs.length := by simpa using hk
  rw [polyData_getD xs c degree k hk', fitAt_monomials xs c degree k hk', sub_self]
  simp

example : matVec (normalMatrix (monomials [0, 1, 2, 3] 2) [1, 2, 1, 3]) [1, -1, 2] =
    normalRhs (monomials [0, 1, 2, 3] 2) [1, 2, 1, 3] (([0, 1, 2, 3] : Vec).map fun x => polyEval [1, -1, 2] x) :=
  poly_data_normal_eq_polyEval [0, 1, 2, 3] [1, 2, 1, 3] [1, -1, 2] 2 rfl rfl

/-- Polynomials of degree at most `d` that agree at `d + 1` points have the same coefficients. -/
lemma coeff_eq_of_eval_eq (c β : ℕ → ℚ) (d : ℕ) (S : Finset ℚ) (hS : d + 1 ≤ S.card)
    (h : ∀ x ∈ S, ∑ i ∈ range (d + 1), c i * x ^ i = ∑ i ∈ range (d + 1), β i * x ^ i) :
    ∀ i < d + 1, β i = c i := by
  let p : Polynomial ℚ := ∑ i ∈ range (d + 1), Polynomial.C (c i - β i) * Polynomial.X ^ i
  have hdeg : p.natDegree ≤ d :=
    Polynomial.natDegree_sum_le_of_forall_le _ _ fun i hi =>
      (Polynomial.natDegree_C_mul_X_pow_le _ _).trans (Nat.le_of_lt_succ (Finset.mem_range.1 hi))
  have heval : ∀ x ∈ S, p.eval x = 0 := by
    intro x hx
    simp only [p, Polynomial.eval_finsetSum, Polynomial.eval_mul, Polynomial.eval_C,
      Polynomial.eval_pow, Polynomial.eval_X, sub_mul, Finset.sum_sub_distrib]
    exact sub_eq_zero.2 (h x hx)
  have hp0 : p = 0 :=
    Polynomial.eq_zero_of_natDegree_lt_card_of_eval_eq_zero' p S heval (by omega)
  intro i hi
  have hcoef : p.coeff i = c i - β i := by
    simp only [p, Polynomial.finsetSum_coeff, Polynomial.coeff_C_mul_X_pow]
    rw [Finset.sum_eq_single_of_mem i (Finset.mem_range.2 hi) fun j _ hji => if_neg hji.symm,
      if_pos rfl]
  rw [hp0, Polynomial.coeff_zero] at hcoef
  exact (sub_eq_zero.1 hcoef.symm).symm

/-- **Uniqueness of polynomial reproduction.** With non-negative weights, exactly polynomial data, and
at least `degree+1` distinct abscissae carrying a strictly positive weight, *any* solution `β` of the
normal equations has zero SSE and is equal to the true coefficient vector `c`. -/
theorem poly_data_unique (xs w c β : Vec) (degree : ℕ) (hc : c.length = degree + 1)
    (hβ : β.length = degree + 1) (hw : w.length = xs.length) (hpos : ∀ x ∈ w, 0 ≤ x)
    (hdist : degree + 1 ≤
      (((xs.zip w).filter fun p => decide (0 < p.2)).map Prod.fst).toFinset.card)
    (hne : matVec (normalMatrix (monomials xs degree) w) β =
      normalRhs (monomials xs degree) w
        (xs.map fun x => ∑ i ∈ range (degree + 1), c.getD i 0 * x ^ i)) :
    sse (monomials xs degree) w
      (xs.map fun x => ∑ i ∈ range (degree + 1), c.getD i 0 * x ^ i) β = 0 ∧ β = c := by
  set ys := xs.map fun x => ∑ i ∈ range (degree + 1), c.getD i 0 * x ^ i with hys
  have hylen : ys.length = xs.length := List.length_map _
  have hterm : ∀ k ∈ range ys.length,
      0 ≤ w.getD k 1 * (ys.getD k 0 - fitAt (monomials xs degree) β k) ^ 2 := by
    intro k hk
    have hk' : k < w.length := by have := Finset.mem_range.1 hk; omega
    rw [List.getD_eq_getElem _ _ hk']
    exact mul_nonneg (hpos _ (List.getElem_mem _)) (sq_nonneg _)
  have hsse0 : sse (monomials xs degree) w ys β = 0 := by
    refine le_antisymm ?_ (by rw [sse_eq_sum]; exact Finset.sum_nonneg hterm)
    rw [← poly_data_sse_zero xs w c degree]
    exact normal_eq_minimises _ w ys β c (by omega) (by rw [monomials_length, hβ])
      (by rw [monomials_length, hc]) hpos hne
  refine ⟨hsse0, ?_⟩
  rw [sse_eq_sum] at hsse0
  have hzero := (Finset.sum_eq_zero_iff_of_nonneg hterm).1 hsse0
  rw [list_eq_iff_getD β c (degree + 1) hβ hc]
  refine coeff_eq_of_eval_eq _ _ degree _ hdist fun x hx => ?_
  -- `x = xs[k]` for some `k` with `w[k] > 0`, so the `k`-th residual vanishes
  simp only [List.mem_toFinset, List.mem_map, List.mem_filter, decide_eq_true_eq] at hx
  obtain ⟨⟨a, b⟩, ⟨hmem, hb⟩, rfl⟩ := hx
  obtain ⟨k, hk, hkeq⟩ := List.mem_iff_getElem.1 hmem
  rw [List.length_zip] at hk
  have hkx : k < xs.length := by omega
  rw [List.getElem_zip, Prod.mk.injEq] at hkeq
  have hz := hzero k (Finset.mem_range.2 (by omega))
  rw [List.getD_eq_getElem _ _ (by omega), hkeq.2, polyData_getD xs c degree k hkx,
    fitAt_monomials xs β degree k hkx, List.getD_eq_getElem _ _ hkx, hkeq.1] at hz
  exact sub_eq_zero.1 (pow_eq_zero_iff two_ne_zero |>.1 ((mul_eq_zero.1 hz).resolve_left hb.ne'))

example : (([0, 1, 2, 3] : Vec).zip ([1, 2, 0, 3] : Vec) |>.filter (fun p => decide (0 < p.2))
    |>.map Prod.fst).toFinset.card = 3 := by
  decide +kernel

/-- the hypotheses of `poly_data_unique` are satisfiable on a concrete input (one weight is 0) -/
example : sse (monomials [0, 1, 2, 3] 2) [1, 2, 0, 3]
      (([0, 1, 2, 3] : Vec).map fun x => ∑ i ∈ range (2 + 1), ([1, -1, 2] : Vec).getD i 0 * x ^ i)
      [1, -1, 2] = 0 ∧ ([1, -1, 2] : Vec) = [1, -1, 2] :=
  poly_data_unique [0, 1, 2, 3] [1, 2, 0, 3] [1, -1, 2] [1, -1, 2] 2 rfl rfl rfl
    (by decide +kernel) (by decide +kernel) (poly_data_normal_eq _ _ _ 2 rfl)

/-! ## L4: Gauss–Jordan soundness -/

/-- `M` has `n` rows, each of length `L` -/
def Shape (M : Mat) (n L : ℕ) : Prop := M.length = n ∧ ∀ r ∈ M, r.length = L

/-- `M` with rows `r` and `c` exchanged, as `pivotStep` builds it with two `set`s -/
def swapRows (M : Mat) (r c : ℕ) : Mat := (M.set r (M.getD c [])).set c (M.getD r [])

/-- the matrix `pivotStep M c` returns when its search finds pivot row `r` -/
def stepMat (M : Mat) (c r : ℕ) : Mat :=
  (List.range (swapRows M r c).length).map fun i =>
    if i == c then (M.getD r []).map (· / (M.getD r []).getD c 0)
    else
      (((swapRows M r c).getD i []).zip ((M.getD r []).map (· / (M.getD r []).getD c 0))).map
        fun (a, b) => a - ((swapRows M r c).getD i []).getD c 0 * b

lemma pivotStep_eq (M : Mat) (c : ℕ) :
    pivotStep M c =
      match (List.range M.length).find? (fun r => r ≥ c && (M.getD r []).getD c 0 != 0) with
      | none => none
      | some r => some (stepMat M c r) := rfl

/-- index permutation realised by the row swap -/
def sw (r c i : ℕ) : ℕ := if i = c then r else if i = r then c else i

lemma swapRows_getD (M : Mat) (r c i : ℕ) (hr : r < M.length) (hc : c < M.length) :
    (swapRows M r c).getD i [] = M.getD (sw r c i) [] := by
  unfold swapRows sw
  simp only [List.getD_eq_getElem?_getD, List.getElem?_set, List.length_set]
  by_cases h1 : i = c
  · subst h1; simp [hc]
  · by_cases h2 : i = r
    · subst h2; simp [h1, Ne.symm h1, hr]
    · simp [h1, h2, Ne.symm h1, Ne.symm h2]

lemma swapRows_length (M : Mat) (r c : ℕ) : (swapRows M r c).length = M.length := by
  simp [swapRows]

lemma sw_sw (r c i : ℕ) : sw r c (sw r c i) = i :=
  Equiv.swap_apply_self c r i

lemma sw_lt (r c i n : ℕ) (hr : r < n) (hc : c < n) (hi : i < n) : sw r c i < n := by
  unfold sw; split_ifs <;> assumption

lemma Shape.row_len {M : Mat} {n L : ℕ} (h : Shape M n L) (i : ℕ) (hi : i < n) :
    (M.getD i []).length = L := by
  rw [List.getD_eq_getElem _ _ (h.1.symm ▸ hi)]; exact h.2 _ (List.getElem_mem _)

lemma getD_map_div (l : Vec) (p : ℚ) (j : ℕ) : (l.map (· / p)).getD j 0 = l.getD j 0 / p :=
  getD_map_zero l (· / p) 0 (by simp) j

lemma getD_zip_map_sub (a b : Vec) (f : ℚ) (h : a.length = b.length) (j : ℕ) :
    ((a.zip b).map fun (x, y) => x - f * y).getD j 0 = a.getD j 0 - f * b.getD j 0 := by
  rw [List.zip_eq_zipWith, List.map_zipWith]
  exact getD_zipWith (fun x y => x - f * y) (by simp) a b h j

/-- The one place where the list form of the pivot step is read: its `i`-th row. -/
lemma stepMat_getD (M : Mat) (c r i : ℕ) (hr : r < M.length) (hc : c < M.length)
    (hi : i < M.length) :
    (stepMat M c r).getD i [] =
      if i = c then (M.getD r []).map (· / ent M r c)
      else ((M.getD (sw r c i) []).zip ((M.getD r []).map (· / ent M r c))).map
        fun (a, b) => a - ent M (sw r c i) c * b := by
  unfold stepMat
  rw [List.getD_eq_getElem?_getD, List.getElem?_map,
    List.getElem?_range (by rwa [swapRows_length]), Option.map_some, Option.getD_some,
    swapRows_getD M r c i hr hc]
  simp only [beq_iff_eq, ent]

/-- Entrywise description of one elimination step on column `c` with pivot row `r`: rows `r` and
`c` change places, the pivot row is divided by the pivot, and the multiple of it that clears
column `c` is subtracted from every other row. -/
def ElimStep (M M' : Mat) (n c r : ℕ) : Prop :=
  ∀ i < n, ∀ j, ent M' i j =
    if i = c then ent M r j / ent M r c
    else ent M (sw r c i) j - ent M (sw r c i) c * (ent M r j / ent M r c)

lemma stepMat_spec (M : Mat) (n L c r : ℕ) (hS : Shape M n L) (hc : c < n) (hr : r < n) :
    Shape (stepMat M c r) n L ∧ ElimStep M (stepMat M c r) n c r := by
  have hlen : ∀ i < n,
      (M.getD (sw r c i) []).length = ((M.getD r []).map (· / ent M r c)).length :=
    fun i hi => by rw [List.length_map, hS.row_len r hr, hS.row_len _ (sw_lt r c i n hr hc hi)]
  have hrow := fun i (hi : i < n) => stepMat_getD M c r i (hS.1 ▸ hr) (hS.1 ▸ hc) (hS.1 ▸ hi)
  refine ⟨⟨by simp [stepMat, swapRows_length, hS.1], fun row hmem => ?_⟩, fun i hi j => ?_⟩
  · obtain ⟨i, hi, rfl⟩ := List.mem_iff_getElem.1 hmem
    have hin : i < n := by simpa [stepMat, swapRows_length, hS.1] using hi
    rw [← List.getD_eq_getElem _ [] hi, hrow i hin]
    split_ifs
    · rw [List.length_map, hS.row_len r hr]
    · rw [List.length_map, List.length_zip, ← hlen i hin, min_self,
        hS.row_len _ (sw_lt r c i n hr hc hin)]
  · unfold ent at *
    rw [hrow i hi]
    split_ifs
    · rw [getD_map_div]
    · rw [getD_zip_map_sub _ _ _ (hlen i hi), getD_map_div]

lemma pivotStep_spec (M M' : Mat) (n L c : ℕ) (hS : Shape M n L) (hc : c < n)
    (h : pivotStep M c = some M') :
    ∃ r, c ≤ r ∧ r < n ∧ ent M r c ≠ 0 ∧ Shape M' n L ∧ ElimStep M M' n c r := by
  rw [pivotStep_eq] at h
  split at h
  · exact absurd h (by simp)
  · rename_i r hfind
    rw [List.find?_range_eq_some] at hfind
    obtain ⟨hp, hmem, _⟩ := hfind
    simp only [ge_iff_le, Bool.and_eq_true, decide_eq_true_eq, bne_iff_ne, ne_eq] at hp
    have hr : r < n := by rw [← hS.1]; exact List.mem_range.1 hmem
    obtain rfl := Option.some.inj h
    exact ⟨r, hp.1, hr, hp.2, stepMat_spec M n L c r hS hc hr⟩

/-- `v` solves the augmented system `M` (left `n×n` block, right-hand side in column `n`) -/
def Sat (n : ℕ) (M : Mat) (v : ℕ → ℚ) : Prop :=
  ∀ i < n, ∑ j ∈ range n, ent M i j * v j = ent M i n

/-- the first `c` columns of the left block are identity columns -/
def IdCols (n : ℕ) (M : Mat) (c : ℕ) : Prop :=
  ∀ i < n, ∀ j < c, ent M i j = if i = j then 1 else 0

lemma step_sat (M M' : Mat) (n c r : ℕ) (hc : c < n) (hr : r < n)
    (hp : ent M r c ≠ 0)
    (hE : ElimStep M M' n c r)
    (v : ℕ → ℚ) (hsat : Sat n M' v) : Sat n M v := by
  -- row `c` of `M'` is row `r` of `M` divided by the pivot
  have hrow_r : ∑ j ∈ range n, ent M r j * v j = ent M r n := by
    have h := hsat c hc
    rw [hE c hc n, if_pos rfl, Finset.sum_congr rfl fun j _ => by
      rw [hE c hc j, if_pos rfl, div_mul_eq_mul_div], ← Finset.sum_div] at h
    exact (div_left_inj' hp).1 h
  -- row `i ≠ c` of `M'` is row `sw r c i` of `M` minus a multiple of row `r`
  have hrow_o : ∀ i < n, i ≠ c →
      ∑ j ∈ range n, ent M (sw r c i) j * v j = ent M (sw r c i) n := by
    intro i hi hic
    have h := hsat i hi
    rw [hE i hi n, if_neg hic, Finset.sum_congr rfl fun j _ => by
      rw [hE i hi j, if_neg hic, sub_mul, mul_assoc, div_mul_eq_mul_div],
      Finset.sum_sub_distrib, ← Finset.mul_sum, ← Finset.sum_div, hrow_r] at h
    exact sub_left_inj.1 h
  intro i hi
  by_cases h1 : i = r
  · exact h1 ▸ hrow_r
  · have := hrow_o (sw r c i) (sw_lt r c i n hr hc hi) (by unfold sw; split_ifs <;> omega)
    rwa [sw_sw] at this

lemma step_id (M M' : Mat) (n c r : ℕ) (hc : c < n) (hcr : c ≤ r) (hr : r < n)
    (hp : ent M r c ≠ 0)
    (hE : ElimStep M M' n c r)
    (hid : IdCols n M c) : IdCols n M' (c + 1) := by
  intro i hi j hj
  rw [hE i hi j]
  rcases Nat.lt_succ_iff_lt_or_eq.1 hj with hjc | rfl
  · -- an identity column `j < c ≤ r`: the pivot row is `0` there, so nothing is subtracted
    rw [show ent M r j = 0 by rw [hid r hr j hjc, if_neg (by omega)], zero_div, mul_zero, sub_zero]
    by_cases hic : i = c
    · rw [if_pos hic, if_neg (by omega)]
    · rw [if_neg hic, hid _ (sw_lt r c i n hr hc hi) j hjc]
      exact if_congr (by unfold sw; split_ifs <;> omega) rfl rfl
  · rw [div_self hp, mul_one, sub_self]

/-- the elimination loop of `gaussJordan`, run for `k` columns -/
def gjFold (aug : Mat) (k : ℕ) : Option Mat :=
  (List.range k).foldl (fun (m : Option Mat) c => m.bind fun M => pivotStep M c) (some aug)

lemma gjFold_succ (aug : Mat) (k : ℕ) :
    gjFold aug (k + 1) = (gjFold aug k).bind fun M => pivotStep M k := by
  simp [gjFold, List.range_succ, List.foldl_append]

lemma gj_inv (aug : Mat) (n L : ℕ) (hS : Shape aug n L) (k : ℕ) (hk : k ≤ n)
    (Mk : Mat) (h : gjFold aug k = some Mk) :
    Shape Mk n L ∧ IdCols n Mk k ∧ ∀ v, Sat n Mk v → Sat n aug v := by
  induction k generalizing Mk with
  | zero =>
    simp only [gjFold, List.range_zero, List.foldl_nil, Option.some.injEq] at h
    subst h
    exact ⟨hS, fun i _ j hj => absurd hj (Nat.not_lt_zero _), fun v hv => hv⟩
  | succ k ih =>
    rw [gjFold_succ] at h
    cases hprev : gjFold aug k with
    | none => rw [hprev] at h; exact absurd h (by simp)
    | some Mp =>
      rw [hprev] at h
      simp only [Option.bind_some] at h
      obtain ⟨hSp, hIp, hSatp⟩ := ih (by omega) Mp hprev
      obtain ⟨r, hcr, hr, hp, hS', hE⟩ := pivotStep_spec Mp Mk n L k hSp (by omega) h
      exact ⟨hS', step_id Mp Mk n k r (by omega) hcr hr hp hE hIp,
        fun v hv => hSatp v (step_sat Mp Mk n k r (by omega) hr hp hE v hv)⟩

/-- the augmented matrix `[A | B]` built by `gaussJordan` -/
def augOf (A B : Mat) : Mat := (A.zip B).map fun (a, b) => a ++ b

lemma gaussJordan_eq (A B : Mat) :
    gaussJordan A B =
      (gjFold (augOf A B) A.length).map fun M => M.map fun row => row.drop A.length := rfl

lemma augOf_getD (A : Mat) (b : Vec) (n i : ℕ) (hA : A.length = n) (hb : b.length = n) (hi : i < n) :
    (augOf A (b.map fun x => [x])).getD i [] = A.getD i [] ++ [b.getD i 0] := by
  have h1 : i < A.length := by omega
  have h2 : i < b.length := by omega
  simp [augOf, List.getD_eq_getElem?_getD, h1, h2]

lemma augOf_shape (A : Mat) (b : Vec) (n : ℕ) (hA : A.length = n)
    (hrows : ∀ r ∈ A, r.length = n) (hb : b.length = n) :
    Shape (augOf A (b.map fun x => [x])) n (n + 1) := by
  refine ⟨by simp [augOf, hA, hb], ?_⟩
  intro row hmem
  simp only [augOf, List.mem_map] at hmem
  obtain ⟨⟨a, c⟩, hz, rfl⟩ := hmem
  have := List.of_mem_zip hz
  obtain ⟨x, _, rfl⟩ := List.mem_map.1 this.2
  simp [hrows a this.1]

/-- When the left block is the identity, the last column solves the system. -/
lemma idCols_sat {n : ℕ} {M : Mat} (h : IdCols n M n) : Sat n M fun i => ent M i n := by
  intro i hi
  rw [Finset.sum_congr rfl fun j hj => by
      rw [h i hi j (Finset.mem_range.1 hj), ite_mul, one_mul, zero_mul],
    Finset.sum_ite_eq, if_pos (Finset.mem_range.2 hi)]

/-- A solution of the augmented system `[A | b]` is a solution of `A v = b`. -/
lemma sat_augOf (A : Mat) (b v : Vec) (n : ℕ) (hA : A.length = n)
    (hrows : ∀ r ∈ A, r.length = n) (hb : b.length = n)
    (h : Sat n (augOf A (b.map fun x => [x])) fun j => v.getD j 0) : matVec A v = b := by
  rw [list_eq_iff_getD _ _ n (by simp [matVec, hA]) hb]
  intro i hi
  have hiA : i < A.length := by omega
  have hrow : (A.getD i []).length = n := Shape.row_len ⟨hA, hrows⟩ i hi
  have h1 : (matVec A v).getD i 0 = dot (A.getD i []) v := by
    simp [matVec, List.getD_eq_getElem?_getD, hiA]
  have h2 := h i hi
  unfold ent at h2
  rw [augOf_getD A b n i hA hb hi, List.getD_append_right _ _ _ _ hrow.le, hrow, Nat.sub_self,
    Finset.sum_congr rfl fun j hj => by
      rw [List.getD_append _ _ _ _ (hrow.symm ▸ Finset.mem_range.1 hj)]] at h2
  rw [h1, dot_eq_sum _ _ n (by rw [hrow]; exact min_le_left _ _), h2]
  rfl

lemma solve_spec (A : Mat) (b β : Vec) (n : ℕ) (hA : A.length = n)
    (hrows : ∀ r ∈ A, r.length = n) (hb : b.length = n) (h : solve A b = some β) :
    β.length = n ∧ matVec A β = b := by
  unfold solve at h
  rw [gaussJordan_eq, Option.map_map, Option.map_eq_some_iff] at h
  obtain ⟨Mf, hfold, hβ⟩ := h
  rw [hA] at hfold
  obtain ⟨hSf, hId, hSat⟩ := gj_inv _ n (n + 1)
    (augOf_shape A b n hA hrows hb) n le_rfl Mf hfold
  have hβi : (fun i => β.getD i 0) = fun i => ent Mf i n := by
    funext i
    rw [← hβ]
    simp only [Function.comp, List.map_map, hA]
    rw [getD_map_zero Mf _ [] (by simp)]
    simp [ent, List.getD_eq_getElem?_getD]
  exact ⟨by rw [← hβ]; simp [hSf.1], sat_augOf A b β n hA hrows hb (hβi ▸ hSat _ (idCols_sat hId))⟩

/-- **Soundness of the Gauss–Jordan solver.** If `solve A b` returns `some β` for a square system
(`A` has `n` rows of length `n`, `b` has length `n`), then `β` really solves it: `A β = b`. -/
theorem solve_sound (A : Mat) (b β : Vec) (n : ℕ) (hA : A.length = n)
    (hrows : ∀ r ∈ A, r.length = n) (hb : b.length = n) (h : solve A b = some β) :
    matVec A β = b :=
  (solve_spec A b β n hA hrows hb h).2

/-- A successful `solve` returns one unknown per equation. -/
theorem solve_length (A : Mat) (b β : Vec) (n : ℕ) (hA : A.length = n)
    (hrows : ∀ r ∈ A, r.length = n) (hb : b.length = n) (h : solve A b = some β) :
    β.length = n :=
  (solve_spec A b β n hA hrows hb h).1

/-- **End to end.** If the Gauss–Jordan solver succeeds on the normal equations, the returned `β`
minimises the weighted SSE over all parameter vectors of the right length (non-negative weights). -/
theorem solve_normal_minimises (XT : Mat) (w y β β' : Vec) (hw : w.length = y.length)
    (hpos : ∀ x ∈ w, 0 ≤ x) (hβ' : β'.length = XT.length)
    (h : solve (normalMatrix XT w) (normalRhs XT w y) = some β) :
    sse XT w y β ≤ sse XT w y β' := by
  have hsq : ∀ r ∈ normalMatrix XT w, r.length = XT.length := by
    intro r hr
    simp only [normalMatrix, List.mem_map] at hr
    obtain ⟨_, _, rfl⟩ := hr
    simp
  obtain ⟨hlen, hne⟩ := solve_spec _ _ β XT.length (normalMatrix_length XT w) hsq
    (by simp [normalRhs]) h
  exact normal_eq_minimises XT w y β β' hw hlen hβ' hpos hne

example : solve [[2, 1], [1, 3]] [3, 5] = some [4/5, 7/5] := by decide +kernel
/-- an instance that needs a row swap (zero pivot in column 0) -/
example : solve [[0, 1], [1, 1]] [2, 3] = some [1, 2] := by decide +kernel
/-- a singular system is rejected -/
example : solve [[1, 2], [2, 4]] [1, 1] = none := by decide +kernel

example : matVec [[0, 1], [1, 1]] [1, 2] = [2, 3] :=
  solve_sound [[0, 1], [1, 1]] [2, 3] [1, 2] 2 rfl (by decide) rfl (by decide +kernel)

example : sse exXT exW exY exβ ≤ sse exXT exW exY [0, 2] :=
  solve_normal_minimises exXT exW exY exβ [0, 2] rfl exW_nonneg rfl (by decide +kernel)

example : ([1, 2] : Vec).length = 2 :=
  solve_length [[0, 1], [1, 1]] [2, 3] [1, 2] 2 rfl (by decide) rfl (by decide +kernel)
/-! ## L5: tricube weights -/

/-- At the window radius the tricube weight vanishes. -/
theorem tricube_zero_at_radius (d : ℚ) (hd : d ≠ 0) : tricube d d = 0 := by
  simp [tricube, div_self hd]

/-- At distance 0 the tricube weight is 1. -/
theorem tricube_zero (d : ℚ) : tricube 0 d = 1 := by
  simp [tricube]

lemma tricube_eq (a d : ℚ) : tricube a d = (1 - (a / d) ^ 3) ^ 3 := by
  unfold tricube; ring

/-- The tricube weight is antitone in the distance on `[0, d]`. -/
theorem tricube_antitone (a b d : ℚ) (ha : 0 ≤ a) (hab : a ≤ b) (hbd : b ≤ d) (hd : 0 < d) :
    tricube b d ≤ tricube a d := by
  have hua : 0 ≤ a / d := div_nonneg ha hd.le
  have hab' : a / d ≤ b / d := div_le_div_of_nonneg_right hab hd.le
  have hb1 : (b / d) ^ 3 ≤ 1 := pow_le_one₀ (hua.trans hab') ((div_le_one hd).2 hbd)
  rw [tricube_eq, tricube_eq]
  exact pow_le_pow_left₀ (sub_nonneg.2 hb1) (sub_le_sub_left (pow_le_pow_left₀ hua hab' 3) 1) 3

/-- Inside the window (`0 ≤ a ≤ d`, `0 < d`) the tricube weight lies in `[0, 1]`: by antitonicity it
lies between its values at the radius and at 0. -/
theorem tricube_range (a d : ℚ) (ha : 0 ≤ a) (had : a ≤ d) (hd : 0 < d) :
    0 ≤ tricube a d ∧ tricube a d ≤ 1 :=
  ⟨(tricube_zero_at_radius d hd.ne').symm.le.trans (tricube_antitone a d d ha had le_rfl hd),
    (tricube_antitone 0 a d le_rfl ha had hd).trans (tricube_zero d).le⟩

example : tricube 1 2 = 343 / 512 ∧ tricube 2 2 = 0 ∧ tricube 0 2 = 1 := by
  decide +kernel
example : 0 ≤ tricube 1 2 ∧ tricube 1 2 ≤ 1 :=
  tricube_range 1 2 (by decide +kernel) (by decide +kernel) (by decide +kernel)
example : tricube 2 4 ≤ tricube 1 4 :=
  tricube_antitone 1 2 4 (by decide +kernel) (by decide +kernel) (by decide +kernel) (by decide +kernel)

/-! ## L6: the LOESS window -/

lemma windowStart_spec (xs : Vec) (q : ℕ) (x : ℚ) :
    windowStart xs q x ≤ xs.length - q ∧
    (∀ j < windowStart xs q x, xs.getD j 0 + xs.getD (j + q) 0 < 2 * x) ∧
    (windowStart xs q x < xs.length - q →
      2 * x ≤ xs.getD (windowStart xs q x) 0 + xs.getD (windowStart xs q x + q) 0) := by
  unfold windowStart
  cases h : (List.range (xs.length - q)).find?
      (fun i => decide (xs.getD i 0 + xs.getD (i + q) 0 ≥ 2 * x)) with
  | none =>
    rw [List.find?_eq_none] at h
    simp only [Option.getD_none]
    refine ⟨le_rfl, fun j hj => ?_, fun h' => absurd h' (lt_irrefl _)⟩
    have := h j (List.mem_range.2 hj)
    simpa using this
  | some s =>
    rw [List.find?_range_eq_some] at h
    obtain ⟨h1, h2, h3⟩ := h
    simp only [Option.getD_some]
    refine ⟨(List.mem_range.1 h2).le, fun j hj => ?_, fun _ => by simpa using h1⟩
    have := h3 j hj
    simpa using this

/-- The window start leaves room for a full window of `q` points. -/
theorem windowStart_le (xs : Vec) (q : ℕ) (x : ℚ) : windowStart xs q x ≤ xs.length - q :=
  (windowStart_spec xs q x).1

lemma sorted_getD (xs : Vec) (hs : xs.Pairwise (· ≤ ·)) (a b : ℕ) (hab : a ≤ b) (hb : b < xs.length) :
    xs.getD a 0 ≤ xs.getD b 0 := by
  have ha : a < xs.length := by omega
  simp only [List.getD_eq_getElem?_getD, List.getElem?_eq_getElem ha, List.getElem?_eq_getElem hb,
    Option.getD_some]
  rcases hab.eq_or_lt with rfl | hlt
  · exact le_rfl
  · exact (List.pairwise_iff_getElem.1 hs) a b ha hb hlt

/-- `c` lies in `[a, d]`, whose midpoint is at or right of `x`; `e` lies right of `d`. -/
lemma abs_sub_le_of_above {a c d e x : ℚ} (hac : a ≤ c) (hcd : c ≤ d) (hde : d ≤ e)
    (h : 2 * x ≤ a + d) : |c - x| ≤ |e - x| :=
  abs_le.2 ⟨by linarith [le_abs_self (e - x)], by linarith [le_abs_self (e - x)]⟩

/-- `c` lies in `[b, d]`, whose midpoint is at or left of `x`; `a` lies left of `b`. -/
lemma abs_sub_le_of_below {a b c d x : ℚ} (hab : a ≤ b) (hbc : b ≤ c) (hcd : c ≤ d)
    (h : b + d ≤ 2 * x) : |c - x| ≤ |a - x| :=
  abs_le.2 ⟨by linarith [neg_le_abs (a - x)], by linarith [neg_le_abs (a - x)]⟩

/-- **The LOESS window consists of the `q` nearest neighbours.** For ascending `xs` and `q ≤ n`, with
`s = windowStart xs q x`, every point `xs[i]` inside the window `[s, s+q)` is at least as close to `x`
as every point `xs[j]` (`j < n`) outside it. -/
theorem window_nearest (xs : Vec) (q : ℕ) (x : ℚ) (hs : xs.Pairwise (· ≤ ·)) (hq : q ≤ xs.length)
    (i j : ℕ) (hi : windowStart xs q x ≤ i) (hi' : i < windowStart xs q x + q)
    (hj : j < xs.length) (hout : j < windowStart xs q x ∨ windowStart xs q x + q ≤ j) :
    |xs.getD i 0 - x| ≤ |xs.getD j 0 - x| := by
  obtain ⟨hle, hbefore, hat⟩ := windowStart_spec xs q x
  have hiN : i < xs.length := by omega
  have hmono := sorted_getD xs hs
  rcases hout with hjs | hjs
  · have hp := hbefore (windowStart xs q x - 1) (by omega)
    exact abs_sub_le_of_below (hmono j _ (by omega) (by omega)) (hmono _ i (by omega) hiN)
      (hmono i (windowStart xs q x - 1 + q) (by omega) (by omega)) hp.le
  · exact abs_sub_le_of_above (hmono _ i hi hiN) (hmono i (windowStart xs q x + q) (by omega) (by omega))
      (hmono _ j hjs hj) (hat (by omega))

/-- The window is a set of `q` valid indices. -/
theorem window_in_range (xs : Vec) (q : ℕ) (x : ℚ) (hq : q ≤ xs.length) :
    windowStart xs q x + q ≤ xs.length := by
  have := windowStart_le xs q x; omega

example : windowStart [0, 1, 2, 4, 7, 8] 3 (5/2) = 1 := by decide +kernel
example : |([0, 1, 2, 4, 7, 8] : Vec).getD 3 0 - 5/2| ≤ |([0, 1, 2, 4, 7, 8] : Vec).getD 0 0 - 5/2| :=
  window_nearest [0, 1, 2, 4, 7, 8] 3 (5/2) (by decide +kernel) (by decide) 3 0
    (by decide +kernel) (by decide +kernel) (by decide) (Or.inl (by decide +kernel))
example : windowStart [0, 1, 2, 4, 7, 8] 3 (5/2) + 3 ≤ 6 :=
  window_in_range [0, 1, 2, 4, 7, 8] 3 (5/2) (by decide)

end MV.Fit
