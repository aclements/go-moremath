import Mathlib.Analysis.SpecialFunctions.Gamma.BohrMollerup
import MV.Props.C08GammaSeries
/-!
# C08 — far upper tail of the regularised incomplete gamma reference

`MV.Special.gammaRegIWith lg a x` takes, for `x > 2a + 100` (of this threshold only `2a ≤ x` is
used: `two_mul_le_of_far`), the branch

    P(a,x) ∈ [max 0 (1 − 2·exp(e).hi), 1],   e ∋ (a−1) log x − x − (log Γ(a+1) − log a).

This file proves the analytic fact behind it (`upperGamma_le`: `Γ(a,x) ≤ 2 x^(a−1) e^(−x)` for
`x ≥ 2a`), the splitting `γ(a,x) + Γ(a,x) = Γ(a)` (`lower_add_upper`), the regularised form
(`upperGammaReg_le`, `upperGammaQ_nonneg`, `upperGammaQ_le_one`) and the soundness of that branch
of the executable definition (`gammaRegIWith_farTail_sound`).
-/
namespace MV.Special
open MeasureTheory Set MV MV.I

/-- the integrand of the (upper) incomplete gamma function -/
noncomputable def gammaIntegrand (a : ℝ) (t : ℝ) : ℝ := t ^ (a - 1) * Real.exp (-t)

/-- pointwise: for `t ≥ x ≥ 2a`, `t^(a-1) e^(-t/2) ≤ x^(a-1) e^(-x/2)`, in the log form -/
lemma mul_log_sub_half_le {a x t : ℝ} (hx : 0 < x) (hax : 2 * a ≤ x) (hxt : x ≤ t) :
    (a - 1) * Real.log t - t / 2 ≤ (a - 1) * Real.log x - x / 2 := by
  have ht : 0 < t := hx.trans_le hxt
  have key : (a - 1) * (Real.log t - Real.log x) ≤ (t - x) / 2 := by
    rcases le_or_gt a 1 with h1 | h1
    · exact (mul_nonpos_of_nonpos_of_nonneg (by linarith)
        (sub_nonneg.mpr (Real.log_le_log hx hxt))).trans (by linarith)
    · -- `log t − log x = log (t/x) ≤ t/x − 1`, and `(a − 1)/x ≤ 1/2`
      have h2 : Real.log t - Real.log x ≤ (t - x) / x := by
        rw [← Real.log_div ht.ne' hx.ne', sub_div, div_self hx.ne']
        exact Real.log_le_sub_one_of_pos (div_pos ht hx)
      calc (a - 1) * (Real.log t - Real.log x)
          ≤ (a - 1) * ((t - x) / x) := mul_le_mul_of_nonneg_left h2 (by linarith)
        _ = (a - 1) / x * (t - x) := by ring
        _ ≤ 1 / 2 * (t - x) :=
          mul_le_mul_of_nonneg_right ((div_le_iff₀ hx).mpr (by linarith)) (by linarith)
        _ = (t - x) / 2 := by ring
  linarith

lemma gammaIntegrand_le {a x t : ℝ} (hx : 0 < x) (hax : 2 * a ≤ x) (hxt : x ≤ t) :
    gammaIntegrand a t ≤ x ^ (a - 1) * Real.exp (-x / 2) * Real.exp (-(1 / 2) * t) := by
  have ht : 0 < t := lt_of_lt_of_le hx hxt
  unfold gammaIntegrand
  rw [Real.rpow_def_of_pos ht, Real.rpow_def_of_pos hx, ← Real.exp_add, ← Real.exp_add,
    ← Real.exp_add]
  apply Real.exp_le_exp.mpr
  have := mul_log_sub_half_le (a := a) hx hax hxt
  linarith

lemma gammaIntegrand_nonneg {a t : ℝ} (ht : 0 ≤ t) : 0 ≤ gammaIntegrand a t :=
  mul_nonneg (Real.rpow_nonneg ht _) (Real.exp_pos _).le

lemma gammaIntegrand_integrableOn_zero {a : ℝ} (ha : 0 < a) :
    IntegrableOn (gammaIntegrand a) (Ioi 0) := by
  have := Real.GammaIntegral_convergent ha
  refine this.congr_fun (fun t _ => ?_) measurableSet_Ioi
  simp only [gammaIntegrand]; ring

lemma gammaIntegrand_integrableOn {a x : ℝ} (ha : 0 < a) (hx : 0 ≤ x) :
    IntegrableOn (gammaIntegrand a) (Ioi x) :=
  (gammaIntegrand_integrableOn_zero ha).mono_set (Ioi_subset_Ioi hx)

/-- For real `a > 0`, `x > 0` with `2a ≤ x`:
`Γ(a,x) = ∫_{t>x} t^(a−1) e^(−t) dt ≤ 2 x^(a−1) e^(−x)`. -/
theorem upperGamma_le {a x : ℝ} (ha : 0 < a) (hx : 0 < x) (hax : 2 * a ≤ x) :
    ∫ t in Ioi x, t ^ (a - 1) * Real.exp (-t) ≤ 2 * x ^ (a - 1) * Real.exp (-x) := by
  have hI : IntegrableOn (fun t : ℝ => Real.exp (-(1 / 2) * t)) (Ioi x) :=
    integrableOn_exp_mul_Ioi (by norm_num) x
  have h1 : ∫ t in Ioi x, gammaIntegrand a t ≤
      ∫ t in Ioi x, x ^ (a - 1) * Real.exp (-x / 2) * Real.exp (-(1 / 2) * t) :=
    setIntegral_mono_on (gammaIntegrand_integrableOn ha hx.le) (hI.const_mul _) measurableSet_Ioi
      (fun t ht => gammaIntegrand_le hx hax (le_of_lt ht))
  have h2 : ∫ t in Ioi x, x ^ (a - 1) * Real.exp (-x / 2) * Real.exp (-(1 / 2) * t)
      = 2 * x ^ (a - 1) * Real.exp (-x) := by
    rw [integral_const_mul, integral_exp_mul_Ioi (by norm_num) x]
    have : Real.exp (-x) = Real.exp (-x / 2) * Real.exp (-(1 / 2) * x) := by
      rw [← Real.exp_add]; congr 1; ring
    rw [this]; ring
  exact h1.trans_eq h2

example : ∫ t in Ioi (200 : ℝ), t ^ ((1 / 2 : ℝ) - 1) * Real.exp (-t)
    ≤ 2 * (200 : ℝ) ^ ((1 / 2 : ℝ) - 1) * Real.exp (-200) :=
  upperGamma_le (by norm_num) (by norm_num) (by norm_num)

example : ∫ t in Ioi (7 : ℝ), t ^ ((7 / 2 : ℝ) - 1) * Real.exp (-t)
    ≤ 2 * (7 : ℝ) ^ ((7 / 2 : ℝ) - 1) * Real.exp (-7) :=
  upperGamma_le (by norm_num) (by norm_num) (by norm_num)

/-- regularised upper incomplete gamma function `Q(a,x) = Γ(a,x)/Γ(a)` -/
noncomputable def upperGammaQ (a x : ℝ) : ℝ :=
  (∫ t in Ioi x, t ^ (a - 1) * Real.exp (-t)) / Real.Gamma a

lemma upperGamma_nonneg (a : ℝ) {x : ℝ} (hx : 0 ≤ x) :
    0 ≤ ∫ t in Ioi x, t ^ (a - 1) * Real.exp (-t) :=
  setIntegral_nonneg measurableSet_Ioi
    (fun _ ht => gammaIntegrand_nonneg (a := a) (hx.trans (le_of_lt ht)))

/-- For `a > 0`, `x ≥ 0`:
`∫₀ˣ t^(a−1) e^(−t) dt + ∫ₓ^∞ t^(a−1) e^(−t) dt = Γ(a)`. -/
theorem lower_add_upper {a x : ℝ} (ha : 0 < a) (hx : 0 ≤ x) :
    (∫ t in (0 : ℝ)..x, t ^ (a - 1) * Real.exp (-t)) +
      (∫ t in Set.Ioi x, t ^ (a - 1) * Real.exp (-t)) = Real.Gamma a := by
  have hI := gammaIntegrand_integrableOn_zero ha
  have hG : Real.Gamma a = ∫ t in Ioi (0 : ℝ), gammaIntegrand a t := by
    rw [Real.Gamma_eq_integral ha]
    refine setIntegral_congr_fun measurableSet_Ioi (fun t _ => ?_)
    simp only [gammaIntegrand]; ring
  exact (intervalIntegral.integral_interval_add_Ioi hI (hI.mono_set (Ioi_subset_Ioi hx))).trans
    hG.symm

lemma upperGamma_le_Gamma {a x : ℝ} (ha : 0 < a) (hx : 0 ≤ x) :
    ∫ t in Ioi x, t ^ (a - 1) * Real.exp (-t) ≤ Real.Gamma a := by
  have h := lower_add_upper ha hx
  have h0 : 0 ≤ ∫ t in (0 : ℝ)..x, t ^ (a - 1) * Real.exp (-t) :=
    intervalIntegral.integral_nonneg hx fun t ht => gammaIntegrand_nonneg (a := a) ht.1
  linarith

theorem upperGammaQ_nonneg {a x : ℝ} (ha : 0 < a) (hx : 0 ≤ x) : 0 ≤ upperGammaQ a x :=
  div_nonneg (upperGamma_nonneg a hx) (Real.Gamma_pos_of_pos ha).le

/-- `Q(a,x) ≤ 1` for `a > 0`, `x ≥ 0`: the integral over `(x,∞)` is at most the one over
`(0,∞)`, which is `Γ(a)`. -/
theorem upperGammaQ_le_one {a x : ℝ} (ha : 0 < a) (hx : 0 ≤ x) : upperGammaQ a x ≤ 1 :=
  (div_le_one (Real.Gamma_pos_of_pos ha)).mpr (upperGamma_le_Gamma ha hx)

example : 0 ≤ upperGammaQ (7 / 2) 3 ∧ upperGammaQ (7 / 2) 3 ≤ 1 :=
  ⟨upperGammaQ_nonneg (by norm_num) (by norm_num), upperGammaQ_le_one (by norm_num) (by norm_num)⟩

lemma log_Gamma_eq_sub_log {a : ℝ} (ha : 0 < a) :
    Real.log (Real.Gamma a) = Real.log (Real.Gamma (a + 1)) - Real.log a := by
  rw [Real.Gamma_add_one ha.ne', Real.log_mul ha.ne' (Real.Gamma_pos_of_pos ha).ne']
  ring

/-- For real `a > 0`, `x > 0` with `2a ≤ x`:
`Q(a,x) = Γ(a,x)/Γ(a) ≤ 2 exp((a−1) log x − x − (log Γ(a+1) − log a))`, and `0 ≤ Q(a,x) ≤ 1`. -/
theorem upperGammaReg_le {a x : ℝ} (ha : 0 < a) (hx : 0 < x) (hax : 2 * a ≤ x) :
    upperGammaQ a x ≤
        2 * Real.exp ((a - 1) * Real.log x - x - (Real.log (Real.Gamma (a + 1)) - Real.log a))
      ∧ 0 ≤ upperGammaQ a x ∧ upperGammaQ a x ≤ 1 := by
  refine ⟨?_, upperGammaQ_nonneg ha hx.le, upperGammaQ_le_one ha hx.le⟩
  have hG := Real.Gamma_pos_of_pos ha
  unfold upperGammaQ
  rw [div_le_iff₀ hG]
  refine (upperGamma_le ha hx hax).trans_eq ?_
  rw [← log_Gamma_eq_sub_log ha, sub_eq_add_neg ((a - 1) * _), exp_mul_log_add_sub_log hx hG,
    mul_div_assoc', div_mul_cancel₀ _ hG.ne', mul_assoc]

example : upperGammaQ (1 / 2) 200 ≤
    2 * Real.exp (((1 / 2 : ℝ) - 1) * Real.log 200 - 200
      - (Real.log (Real.Gamma ((1 / 2 : ℝ) + 1)) - Real.log (1 / 2)))
    ∧ 0 ≤ upperGammaQ (1 / 2) 200 ∧ upperGammaQ (1 / 2) 200 ≤ 1 :=
  upperGammaReg_le (by norm_num) (by norm_num) (by norm_num)

/-- the enclosure of the exponent used by the far-tail branch -/
def farTailExp (lg : I) (a x : ℚ) : I :=
  I.sub (I.sub (I.scale (a - 1) (I.logQ x)) (I.ofRat x)) (I.sub lg (I.logQ a))

lemma gammaRegIWith_farTail_eq (lg : I) (a x : ℚ) (hx0 : 0 < x) (hx : 2 * a + 100 < x) :
    gammaRegIWith lg a x =
      some ⟨ratMax 0 (1 - 2 * (I.exp ⟨(farTailExp lg a x).hi, (farTailExp lg a x).hi⟩).hi), 1⟩ := by
  unfold gammaRegIWith
  rw [if_neg (not_le.mpr hx0), if_pos hx]
  rfl

lemma farTailExp_sound (lg : I) (a x : ℚ) (ha : 0 < a) (hx0 : 0 < x) {y : ℝ} (hy : Mem y lg) :
    Mem (((a : ℝ) - 1) * Real.log x - x - (y - Real.log a)) (farTailExp lg a x) := by
  have h := gammaSeriesExp_sound _ (a - 1) x hx0 (sub_sound hy (logQ_sound a ha))
  rwa [Rat.cast_sub, Rat.cast_one] at h

/-- beyond the model's threshold `2a + 100` (`gammaRegIWith`, `lgammaS`) the tail bound
`upperGamma_le` applies; only `2a ≤ x` is used of it -/
lemma two_mul_le_of_far {a x : ℚ} (h : 2 * a + 100 ≤ x) : 2 * (a : ℝ) ≤ (x : ℝ) := by
  have : ((2 * a + 100 : ℚ) : ℝ) ≤ (x : ℝ) := Rat.cast_le.mpr h
  push_cast at this
  linarith

/-- Soundness of the far-tail branch.  For rational `a > 0`, rational `x > 2a + 100` and any
interval `lg` that contains `log Γ(a+1)`, `gammaRegIWith lg a x` returns an interval `r` that
contains the regularised lower incomplete gamma value `P(a,x) = 1 − Q(a,x)`. -/
theorem gammaRegIWith_farTail_sound (lg : I) (a x : ℚ) (ha : 0 < a) (hx : 2 * a + 100 < x)
    (hlg : Mem (Real.log (Real.Gamma ((a : ℝ) + 1))) lg) :
    ∃ r, gammaRegIWith lg a x = some r ∧ Mem (1 - upperGammaQ (a : ℝ) (x : ℝ)) r := by
  have hx0 : 0 < x := by linarith
  refine ⟨_, gammaRegIWith_farTail_eq lg a x hx0 hx, ?_⟩
  have haR : (0 : ℝ) < (a : ℝ) := Rat.cast_pos.mpr ha
  have hxR : (0 : ℝ) < (x : ℝ) := Rat.cast_pos.mpr hx0
  obtain ⟨hQ, hQ0, hQ1⟩ := upperGammaReg_le haR hxR (two_mul_le_of_far hx.le)
  have hexp := exp_le_exp_hi (farTailExp_sound lg a x ha hx0 hlg)
  set e := farTailExp lg a x
  refine mem_of_le_of_le ?_ (by rw [Rat.cast_one]; linarith)
  rw [ratMax_eq]
  push_cast
  exact max_le (by linarith) (by linarith)

/-- `a = 1`, `x = 200`, `log Γ(2) = 0 ∈ [0,0]` -/
example : ∃ r, gammaRegIWith (I.ofRat 0) 1 200 = some r ∧
    Mem (1 - upperGammaQ ((1 : ℚ) : ℝ) ((200 : ℚ) : ℝ)) r := by
  refine gammaRegIWith_farTail_sound (I.ofRat 0) 1 200 (by norm_num) (by norm_num) ?_
  have : Real.log (Real.Gamma (((1 : ℚ) : ℝ) + 1)) = ((0 : ℚ) : ℝ) := by
    norm_num [Real.Gamma_two]
  rw [this]; exact ofRat_sound 0

/-- `log Γ(3/2) = log (√π / 2) ∈ [-1, 0]` -/
lemma log_Gamma_three_halves_mem :
    Mem (Real.log (Real.Gamma (((1 / 2 : ℚ) : ℝ) + 1))) ⟨-1, 0⟩ := by
  have h12 : (((1 / 2 : ℚ) : ℝ)) = 1 / 2 := by norm_num
  rw [h12, Real.Gamma_add_one (by norm_num), Real.Gamma_one_half_eq]
  have hpi1 : (1 : ℝ) ≤ Real.sqrt Real.pi := by
    rw [Real.one_le_sqrt]; linarith [Real.pi_gt_three]
  have hpi2 : Real.sqrt Real.pi ≤ 2 :=
    (Real.sqrt_le_left (by norm_num)).mpr (by norm_num; exact Real.pi_le_four)
  refine mem_of_le_of_le ?_ ?_
  · push_cast
    rw [Real.le_log_iff_exp_le (by positivity), Real.exp_neg]
    have : (2 : ℝ) ≤ Real.exp 1 := by linarith [Real.add_one_le_exp (1 : ℝ)]
    have h3 : (Real.exp 1)⁻¹ ≤ 2⁻¹ := inv_anti₀ (by norm_num) this
    linarith
  · rw [Rat.cast_zero]
    apply Real.log_nonpos (by positivity)
    linarith

/-- `a = 1/2`, `x = 200`, with `lg = [-1, 0] ∋ log Γ(3/2)` -/
example : ∃ r, gammaRegIWith ⟨-1, 0⟩ (1 / 2) 200 = some r ∧
    Mem (1 - upperGammaQ ((1 / 2 : ℚ) : ℝ) ((200 : ℚ) : ℝ)) r :=
  gammaRegIWith_farTail_sound ⟨-1, 0⟩ (1 / 2) 200 (by norm_num) (by norm_num)
    log_Gamma_three_halves_mem

/-- direct form: the result of the far-tail branch brackets `1 − Q(a,x)`. -/
theorem gammaRegIWith_farTail_bounds (lg : I) (a x : ℚ) (ha : 0 < a) (hx : 2 * a + 100 < x)
    (hlg : Mem (Real.log (Real.Gamma ((a : ℝ) + 1))) lg) :
    ∃ r, gammaRegIWith lg a x = some r ∧
      ((r.lo : ℚ) : ℝ) ≤ 1 - upperGammaQ (a : ℝ) (x : ℝ) ∧
      1 - upperGammaQ (a : ℝ) (x : ℝ) ≤ ((r.hi : ℚ) : ℝ) :=
  gammaRegIWith_farTail_sound lg a x ha hx hlg

example : ∃ r, gammaRegIWith ⟨-1, 0⟩ (1 / 2) 200 = some r ∧
    ((r.lo : ℚ) : ℝ) ≤ 1 - upperGammaQ ((1 / 2 : ℚ) : ℝ) ((200 : ℚ) : ℝ) ∧
    1 - upperGammaQ ((1 / 2 : ℚ) : ℝ) ((200 : ℚ) : ℝ) ≤ ((r.hi : ℚ) : ℝ) :=
  gammaRegIWith_farTail_bounds ⟨-1, 0⟩ (1 / 2) 200 (by norm_num) (by norm_num)
    log_Gamma_three_halves_mem

end MV.Special

