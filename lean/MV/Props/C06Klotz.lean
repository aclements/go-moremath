import MV.Props.C06
/-!
# C06 — the algorithm of `HypergeometicDist.CDF` equals the definitional CDF, on either side

`HypergeometicDist.CDF(k)` computes `pmf(k) · Σ_{j=0}^{k-L} a_j` with `a_0 = 1` and
`a_j = a_{j-1} · (1+k-j)/(D-k+j) · (N-K-D+k+1-j)/(K-k+j)`, either for the distribution itself or - "using symmetry
to compute the smaller sum" - for the mirrored one (`Draws ↦ N-Draws`, `k ↦ K-k-1`), returning one minus that.

* `hypTerm_num`: `a_j · c(k) = c(k-j)` on the numerators `c(i) = C(K,i)·C(N-K,D-i)`, i.e. `a_j = pmf(k-j)/pmf(k)`
  (the ratio recurrence of the binomial coefficients);
* `hypSeries_mul`: `pmf(k) · Σ a_j = CDF(k)` for `k` in the support;
* `hypPMF_mirror`, `hypCDF_mirror`: the mirrored distribution has `pmf'(K-j) = pmf(j)`, hence
  `CDF(k) = 1 - CDF'(K-k-1)`;
* `hypCDFalg_eq`: **whichever side is chosen**, the algorithm's value is `hypCDF N K D k`.

The choice of side is therefore immaterial for the value (finding F16 was an integer division that always chose
the mirrored side: still the right value in exact arithmetic, a NaN in float64 once `pmf' = 0` and `Σ a_j = ∞`).
-/
namespace MV.Discrete
open Finset

/-- the unnormalised numerator `C(K,i)·C(N-K,D-i)` of the point mass at `i` -/
def hypNum (N K D i : ℕ) : ℚ := (K.choose i : ℚ) * ((N - K).choose (D - i))

/-- `Nat.choose_succ_right_eq` in each factor: moving one item from the second coefficient to the first -/
lemma choose_mul_choose_step (K M i d : ℕ) (hi : i < K) :
    (K.choose i : ℚ) * M.choose (d + 1)
      = K.choose (i + 1) * M.choose d * (((i + 1 : ℕ) : ℚ) / ((d + 1 : ℕ) : ℚ))
          * (((M - d : ℕ) : ℚ) / ((K - i : ℕ) : ℚ)) := by
  have hKi : ((K - i : ℕ) : ℚ) ≠ 0 := Nat.cast_ne_zero.2 (Nat.sub_ne_zero_of_lt hi)
  have hd1 : ((d + 1 : ℕ) : ℚ) ≠ 0 := Nat.cast_ne_zero.2 (Nat.succ_ne_zero d)
  have hK : (K.choose (i + 1) : ℚ) * ((i + 1 : ℕ) : ℚ) = K.choose i * ((K - i : ℕ) : ℚ) := by
    exact_mod_cast Nat.choose_succ_right_eq K i
  have hM : (M.choose (d + 1) : ℚ) * ((d + 1 : ℕ) : ℚ) = M.choose d * ((M - d : ℕ) : ℚ) := by
    exact_mod_cast Nat.choose_succ_right_eq M d
  rw [mul_assoc, div_mul_div_comm, mul_div_assoc', eq_div_iff (mul_ne_zero hd1 hKi)]
  linear_combination (K.choose i : ℚ) * ((K - i : ℕ) : ℚ) * hM
    - (M.choose d : ℚ) * ((M - d : ℕ) : ℚ) * hK

/-- One step of the loop on the numerators, with the indices as `hypTerm` writes them: for
`i = k - j` above the lower end of the support, `c(i-1) = c(i) · i/(D-i+1) · (N-K-D+i)/(K-i+1)`. -/
lemma hypNum_step (N K D k j : ℕ) (hkK : k ≤ K) (hkD : k ≤ D) (hj : j < k - hypLo N K D) :
    hypNum N K D (k - (j + 1)) = hypNum N K D (k - j)
      * (((1 + k - (j + 1) : ℕ) : ℚ) / ((D - k + (j + 1) : ℕ) : ℚ))
      * ((((N : ℤ) - K - D + k + 1 - (j + 1) : ℤ) : ℚ) / ((K - k + (j + 1) : ℕ) : ℚ)) := by
  -- name `i + 1 = k - j` and `d = D - (i + 1)` so that the truncated subtractions can be evaluated
  have hjk : j < k := by omega
  have hN : D + K + j < k + N := by unfold hypLo at hj; omega
  clear hj
  obtain ⟨i, rfl⟩ := Nat.exists_eq_add_of_lt hjk
  obtain ⟨d, rfl⟩ : ∃ d, D = i + 1 + d := ⟨D - (i + 1), by omega⟩
  rw [show j + i + 1 - (j + 1) = i by omega, show j + i + 1 - j = i + 1 by omega,
    show 1 + (j + i + 1) - (j + 1) = i + 1 by omega,
    show i + 1 + d - (j + i + 1) + (j + 1) = d + 1 by omega,
    show K - (j + i + 1) + (j + 1) = K - i by omega,
    show (N : ℤ) - K - (i + 1 + d : ℕ) + (j + i + 1 : ℕ) + 1 - (j + 1) = ((N - K - d : ℕ) : ℤ) by omega,
    Int.cast_natCast]
  unfold hypNum
  rw [show i + 1 + d - i = d + 1 by omega, Nat.add_sub_cancel_left]
  exact choose_mul_choose_step K (N - K) i d (by omega)

/-- `a_j · c(k) = c(k-j)`: the running term of the series is the ratio of the point masses -/
lemma hypTerm_num (N K D k : ℕ) (hK : K ≤ N) (hkK : k ≤ K) (hkD : k ≤ D) (j : ℕ)
    (hj : j ≤ k - hypLo N K D) (hLk : hypLo N K D ≤ k) :
    hypTerm N K D k j * hypNum N K D k = hypNum N K D (k - j) := by
  induction j with
  | zero => simp [hypTerm]
  | succ j ih =>
    rw [hypTerm, hypNum_step N K D k j hkK hkD (by omega), ← ih (by omega)]
    ring

lemma hypPMF_num (N K D i : ℕ) (hK : K ≤ N) (hiD : i ≤ D) :
    hypPMF N K D (i : ℤ) = hypNum N K D i / (N.choose D : ℚ) := by
  rw [hypPMF_eq N K D i hK hiD]; rfl

/-- **The series times the point mass is the CDF.** For `k` in the support, `pmf(k) · Σ_{j=0}^{k-L} a_j`
(the loop of `sum` run to its end in exact arithmetic) is `Σ_{i ≤ k} pmf(i)`. -/
theorem hypSeries_mul (N K D k : ℕ) (hK : K ≤ N) (hD : D ≤ N)
    (hLk : hypLo N K D ≤ k) (hkh : k ≤ hypHi N K D) :
    hypPMF N K D (k : ℤ) * hypSeries N K D k = hypCDF N K D (k : ℤ) := by
  have hkK : k ≤ K := hkh.trans (min_le_right _ _)
  have hkD : k ≤ D := hkh.trans (min_le_left _ _)
  obtain ⟨m, hm⟩ := Nat.exists_eq_add_of_le hLk
  have hz : ∑ x ∈ range (hypLo N K D), hypPMF N K D (x : ℤ) = 0 :=
    sum_eq_zero fun x hx => hypPMF_eq_zero N K D x (Or.inl (by exact_mod_cast mem_range.1 hx))
  -- the CDF is the sum over `0..k`, whose part below `L` vanishes; the rest is the series read backwards
  rw [hypCDF_natCast N K D hK hD, hypSeries, foldl_add_eq_sum, mul_sum,
    show k - hypLo N K D + 1 = m + 1 by omega, show k + 1 = hypLo N K D + (m + 1) by omega,
    sum_range_add _ (hypLo N K D), hz, zero_add, ← sum_range_reflect]
  refine sum_congr rfl fun j hj => ?_
  have hjm : j ≤ m := Nat.lt_succ_iff.1 (mem_range.1 hj)
  rw [show hypLo N K D + j = k - (m + 1 - 1 - j) by omega, hypPMF_num N K D k hK hkD,
    hypPMF_num N K D _ hK (by omega), ← hypTerm_num N K D k hK hkK hkD _ (by omega) hLk]
  ring

/-- **Mirror identity of the point masses.** Drawing `N-D` instead of `D` items and counting the successes
left behind: `pmf_{N,K,N-D}(K-j) = pmf_{N,K,D}(j)` for every `j ≤ K` (zeros included). -/
theorem hypPMF_mirror (N K D j : ℕ) (hK : K ≤ N) (hD : D ≤ N) (hj : j ≤ K) :
    hypPMF N K (N - D) (((K - j : ℕ)) : ℤ) = hypPMF N K D (j : ℤ) := by
  by_cases h1 : D < j
  · -- above the support on the right, below it on the left
    rw [hypPMF_eq_zero N K D j (Or.inr (by unfold hypHi; omega)),
      hypPMF_eq_zero N K (N - D) _ (Or.inl (by unfold hypLo; omega))]
  by_cases h2 : N - D < K - j
  · rw [hypPMF_eq_zero N K D j (Or.inl (by unfold hypLo; omega)),
      hypPMF_eq_zero N K (N - D) _ (Or.inr (by unfold hypHi; omega))]
  · rw [hypPMF_eq N K (N - D) (K - j) hK (by omega), hypPMF_eq N K D j hK (by omega),
      show (N - D) - (K - j) = (N - K) - (D - j) by omega, Nat.choose_symm hj,
      Nat.choose_symm (by omega : D - j ≤ N - K), Nat.choose_symm hD]

/-- for any `M` at or beyond the top of the support, `Σ_{i ≤ M} pmf(i) = 1` -/
lemma hyp_total (N K D M : ℕ) (hK : K ≤ N) (hD : D ≤ N) (hM : hypHi N K D ≤ M) :
    ∑ i ∈ range (M + 1), hypPMF N K D (i : ℤ) = 1 := by
  rw [← hypCDF_natCast N K D hK hD, hypCDF_of_ge N K D hK hD _ (by exact_mod_cast hM)]

/-- **Mirror identity of the CDF.** `CDF_{N,K,D}(k) = 1 - CDF_{N,K,N-D}(K-k-1)` for `k < K`. -/
theorem hypCDF_mirror (N K D k : ℕ) (hK : K ≤ N) (hD : D ≤ N) (hk : k < K) :
    hypCDF N K D (k : ℤ) = 1 - hypCDF N K (N - D) (((K - k - 1 : ℕ)) : ℤ) := by
  obtain ⟨m, rfl⟩ := Nat.exists_eq_add_of_lt hk
  -- the complement of the lower sum is the sum over `k+1..K`, which is the mirrored lower sum read backwards
  have htot := hyp_total N (k + m + 1) D (k + m + 1) hK hD (min_le_right _ _)
  rw [show k + m + 1 + 1 = k + 1 + (m + 1) by ring, sum_range_add] at htot
  rw [hypCDF_natCast N _ D hK hD, hypCDF_natCast N _ (N - D) hK (Nat.sub_le _ _),
    show k + m + 1 - k - 1 + 1 = m + 1 by omega, eq_sub_iff_add_eq, ← htot, add_right_inj,
    ← sum_range_reflect]
  refine sum_congr rfl fun t ht => ?_
  have htm : t ≤ m := Nat.lt_succ_iff.1 (mem_range.1 ht)
  rw [← hypPMF_mirror N _ D (k + 1 + t) hK hD (by omega),
    show m + 1 - 1 - t = k + m + 1 - (k + 1 + t) by omega]

/-- **Whichever side is summed, the algorithm returns the CDF.** For `k` strictly inside the support
(`lo ≤ k < hi`, the only case in which the code reaches the series), both the direct evaluation and the
mirrored one (`flip = true`) equal `hypCDF N K D k`. -/
theorem hypCDFalg_eq (N K D k : ℕ) (hK : K ≤ N) (hD : D ≤ N)
    (hlo : hypLo N K D ≤ k) (hhi : k < hypHi N K D) (flip : Bool) :
    hypCDFalg N K D k flip = hypCDF N K D (k : ℤ) := by
  unfold hypCDFalg
  cases flip
  · simp only [Bool.false_eq_true, if_false]
    exact hypSeries_mul N K D k hK hD hlo (le_of_lt hhi)
  · simp only [if_true]
    have hkK : k < K := by unfold hypHi at hhi; omega
    have hD' : N - D ≤ N := Nat.sub_le _ _
    rw [hypCDF_mirror N K D k hK hD hkK]
    congr 1
    apply hypSeries_mul N K (N - D) (K - k - 1) hK hD'
    · unfold hypLo hypHi at *; omega
    · unfold hypLo hypHi at *; omega

example : hypCDFalg 10 4 5 2 true = hypCDFalg 10 4 5 2 false := by
  rw [hypCDFalg_eq 10 4 5 2 (by decide) (by decide) (by decide) (by decide),
      hypCDFalg_eq 10 4 5 2 (by decide) (by decide) (by decide) (by decide)]

end MV.Discrete
