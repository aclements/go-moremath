import MV.Props.C02
/-!
# C03 — moments of the exact Mann-Whitney null distribution (`MV.UDist`)

The normal approximation of the Mann-Whitney test uses mean `n1·n2/2` and variance
`n1·n2/12 · ((N+1) − Σ_k (t_k³ − t_k)/(N(N−1)))`.  This file proves that these are exactly the
mean and the variance of the exact distribution defined by the model (`countEq`), for every tie
vector, in division-free integer form (with `2U` instead of `U`).

Property theorems (keyword `theorem`):

* `twoU_mean_alloc`, `twoU_mean`            : `Σ_v v · countEq t n1 v = n1·n2·C(N,n1)`
* `twoU_second_moment_alloc`, `twoU_variance_tied` : the second moment, any tie vector, `N ≥ 2`
* `twoU_second_moment_untied`               : the untied case `t = [1,…,1]`, every `N`
* `tie_correction_le`                       : `Σ(t³−t) + N ≤ N³` (the subtraction in the statements is exact)
* `U_mean_pmf`, `U_variance_pmf`            : the same, for the API-level masses `pmfAt`, in `ℚ`

Method: `2U + n1(n1+1) = Σ_k r_k (2 B_k + t_k + 1)` (twice the midrank sum), a *linear* statistic
of the allocation; its generating polynomials `Σ_r weight(r) · W(r)^k · X^(Σ r)` (k = 0,1,2) have
closed forms, proved by induction over the tie groups.
-/
namespace MV.UDist
open Finset Polynomial

/-! ## sums over allocations with values in any commutative monoid -/

def gsum {M : Type} [AddCommMonoid M] (ts : List Nat) (g : List Nat → M) : M := ((allocs ts).map g).sum

lemma asum_eq_gsum (ts : List Nat) (g : List Nat → Nat) : asum ts g = gsum ts g := rfl

section
variable {M : Type} [AddCommMonoid M]

lemma gsum_nil (g : List Nat → M) : gsum [] g = g [] := by simp [gsum, allocs]

lemma gsum_cons (t : Nat) (ts : List Nat) (g : List Nat → M) :
    gsum (t :: ts) g = ∑ r ∈ range (t + 1), gsum ts (fun rs => g (r :: rs)) :=
  sum_allocs_cons t ts g

lemma gsum_congr (ts : List Nat) (g g' : List Nat → M) (h : ∀ rs ∈ allocs ts, g rs = g' rs) :
    gsum ts g = gsum ts g' :=
  congrArg List.sum (List.map_congr_left h)

lemma gsum_add (ts : List Nat) (g h : List Nat → M) :
    gsum ts (fun rs => g rs + h rs) = gsum ts g + gsum ts h :=
  List.sum_map_add

lemma gsum_zero (ts : List Nat) : gsum ts (fun _ => (0 : M)) = 0 := by
  simp [gsum]

end

lemma gsum_mul_left {R : Type} [Semiring R] (ts : List Nat) (c : R) (g : List Nat → R) :
    gsum ts (fun rs => c * g rs) = c * gsum ts g :=
  List.sum_map_mul_left ..

lemma gsum_map {M N : Type} [AddCommMonoid M] [AddCommMonoid N] (φ : M →+ N) (ts : List Nat)
    (g : List Nat → M) : φ (gsum ts g) = gsum ts (fun rs => φ (g rs)) := by
  rw [gsum, map_list_sum, List.map_map]
  rfl

lemma gsum_natCast (ts : List Nat) (g : List Nat → Nat) :
    ((asum ts g : Nat) : ℤ) = gsum ts (fun rs => ((g rs : Nat) : ℤ)) :=
  gsum_map (Nat.castAddMonoidHom ℤ) ts g

/-! ## binomial sums `Σ_r C(t,r) r^j X^r` -/

/-- `Σ_r C(t,r) r^j X^r`: the `j`-th power sum of the number `r` of sample-1 items taken from one
group of `t`, `X` marking `r` -/
noncomputable def S (j t : Nat) : ℤ[X] := ∑ r ∈ range (t + 1), (Nat.choose t r : ℤ[X]) * ((r : ℤ[X]) ^ j * X ^ r)

lemma S0_eq (t : Nat) : S 0 t = (1 + X) ^ t := by
  unfold S
  rw [add_comm 1 X, add_pow]
  exact sum_congr rfl fun r _ => by simp [mul_comm]

/-- absorption `(r+1) C(t+1, r+1) = (t+1) C(t, r)` under the sum lowers the power of `r` -/
lemma S_succ_succ (j t : Nat) :
    S (j + 1) (t + 1) = ((t + 1 : Nat) : ℤ[X]) * X *
      ∑ r ∈ range (t + 1), (Nat.choose t r : ℤ[X]) * (((r + 1 : Nat) : ℤ[X]) ^ j * X ^ r) := by
  unfold S
  rw [sum_range_succ' _ (t + 1), mul_sum]
  simp only [Nat.cast_zero, ne_eq, Nat.add_eq_zero_iff, one_ne_zero, and_false, not_false_eq_true,
    zero_pow, zero_mul, mul_zero, add_zero]
  refine sum_congr rfl fun r _ => ?_
  have h := congrArg (Nat.cast : Nat → ℤ[X]) (Nat.add_one_mul_choose_eq t r)
  push_cast at h ⊢
  linear_combination (-(((r : ℤ[X]) + 1) ^ j * X ^ (r + 1))) * h

lemma S1_eq (t : Nat) : (1 + X) * S 1 t = (t : ℤ[X]) * X * (1 + X) ^ t := by
  cases t with
  | zero => simp [S]
  | succ t =>
    have e : ∑ r ∈ range (t + 1), (Nat.choose t r : ℤ[X]) * (((r + 1 : Nat) : ℤ[X]) ^ 0 * X ^ r)
        = S 0 t := by
      simp only [S, pow_zero]
    rw [S_succ_succ, e, S0_eq]
    ring

lemma S2_eq (t : Nat) :
    (1 + X) ^ 2 * S 2 t
      = (t : ℤ[X]) * X * (1 + X) ^ (t + 1) + (t : ℤ[X]) * ((t : ℤ[X]) - 1) * X ^ 2 * (1 + X) ^ t := by
  cases t with
  | zero => simp [S]
  | succ t =>
    have e : ∑ r ∈ range (t + 1), (Nat.choose t r : ℤ[X]) * (((r + 1 : Nat) : ℤ[X]) ^ 1 * X ^ r)
        = S 1 t + S 0 t := by
      unfold S
      rw [← sum_add_distrib]
      exact sum_congr rfl fun r _ => by push_cast; ring
    rw [S_succ_succ, e, S0_eq]
    push_cast
    linear_combination ((t : ℤ[X]) + 1) * X * (1 + X) * S1_eq t

/-! ## the midrank statistic and its generating polynomials -/

/-- twice the midrank sum of sample 1: `Σ_k r_k (2 B_k + t_k + 1)`, where `B_k` = number of pooled
items in earlier groups (starting from `B`) -/
def linM : Nat → List Nat → List Nat → Nat
  | B, t :: ts, r :: rs => r * (2 * B + t + 1) + linM (B + t) ts rs
  | _, _, _ => 0

/-- `Σ_k t_k c_k` with `c_k = 2 B_k + t_k + 1` -/
def AM : Nat → List Nat → Nat
  | B, t :: ts => t * (2 * B + t + 1) + AM (B + t) ts
  | _, [] => 0

/-- `Σ_k t_k c_k²` -/
def QM : Nat → List Nat → Nat
  | B, t :: ts => t * (2 * B + t + 1) ^ 2 + QM (B + t) ts
  | _, [] => 0

/-- `Σ_r weight(r) · W(r)^k · X^(Σ r)` over the allocations `r` of `ts`, `W = linM B ts r`: the `k`-th
power sum of the midrank statistic, `X` marking the sample-1 size -/
noncomputable def G (k B : Nat) (ts : List Nat) : ℤ[X] :=
  gsum ts (fun r => (weight ts r : ℤ[X]) * ((linM B ts r : ℤ[X]) ^ k * X ^ r.sum))

lemma G_nil (k B : Nat) : G k B [] = if k = 0 then 1 else 0 := by
  unfold G
  rw [gsum_nil]
  by_cases hk : k = 0
  · subst hk; simp [weight]
  · simp [weight, linM, hk]

lemma G_cons0 (B t : Nat) (ts : List Nat) : G 0 B (t :: ts) = S 0 t * G 0 (B + t) ts := by
  unfold G S
  rw [gsum_cons]
  simp only [sum_mul]
  apply sum_congr rfl
  intro r _
  simp only [← gsum_mul_left]
  apply gsum_congr
  intro rs _
  simp only [weight, List.sum_cons, choose_eq_nat]
  push_cast
  ring

lemma G_cons1 (B t : Nat) (ts : List Nat) :
    G 1 B (t :: ts) = ((2 * B + t + 1 : Nat) : ℤ[X]) * S 1 t * G 0 (B + t) ts + S 0 t * G 1 (B + t) ts := by
  unfold G S
  rw [gsum_cons]
  simp only [mul_sum, sum_mul, ← sum_add_distrib]
  apply sum_congr rfl
  intro r _
  simp only [← gsum_mul_left, ← gsum_add]
  apply gsum_congr
  intro rs _
  simp only [weight, linM, List.sum_cons, choose_eq_nat]
  push_cast
  ring

lemma G_cons2 (B t : Nat) (ts : List Nat) :
    G 2 B (t :: ts) = ((2 * B + t + 1 : Nat) : ℤ[X]) ^ 2 * S 2 t * G 0 (B + t) ts
      + 2 * ((2 * B + t + 1 : Nat) : ℤ[X]) * S 1 t * G 1 (B + t) ts + S 0 t * G 2 (B + t) ts := by
  unfold G S
  rw [gsum_cons]
  simp only [mul_sum, sum_mul, ← sum_add_distrib]
  apply sum_congr rfl
  intro r _
  simp only [← gsum_mul_left, ← gsum_add]
  apply gsum_congr
  intro rs _
  simp only [weight, linM, List.sum_cons, choose_eq_nat]
  push_cast
  ring

lemma G0_eq (B : Nat) (ts : List Nat) : G 0 B ts = (1 + X) ^ ts.sum := by
  induction ts generalizing B with
  | nil => simp [G_nil]
  | cons t ts ih => rw [G_cons0, ih, S0_eq, List.sum_cons, pow_add]

lemma G1_eq (B : Nat) (ts : List Nat) :
    (1 + X) * G 1 B ts = (AM B ts : ℤ[X]) * X * (1 + X) ^ ts.sum := by
  induction ts generalizing B with
  | nil => simp [G_nil, AM]
  | cons t ts ih =>
    rw [G_cons1, G0_eq, S0_eq, List.sum_cons, AM]
    push_cast
    -- every `S` and `G` on the left is replaced through its closed form (`S1_eq`, the induction
    -- hypothesis); the multiplier of each is what stands beside it after `G_cons1`.  The
    -- combinations in `G2_eq`, `Mk1_eq`, `Mk2_int` are found in the same way.
    linear_combination ((2 * (B : ℤ[X]) + t + 1) * (1 + X) ^ ts.sum) * S1_eq t + (1 + X) ^ t * ih (B + t)

lemma G2_eq (B : Nat) (ts : List Nat) :
    (1 + X) ^ 2 * G 2 B ts = (QM B ts : ℤ[X]) * X * (1 + X) ^ (ts.sum + 1)
      + ((AM B ts : ℤ[X]) ^ 2 - (QM B ts : ℤ[X])) * X ^ 2 * (1 + X) ^ ts.sum := by
  induction ts generalizing B with
  | nil => simp [G_nil, AM, QM]
  | cons t ts ih =>
    rw [G_cons2, G0_eq, S0_eq, List.sum_cons, AM, QM]
    push_cast
    linear_combination ((2 * (B : ℤ[X]) + t + 1) ^ 2 * (1 + X) ^ ts.sum) * S2_eq t
      + (2 * (2 * (B : ℤ[X]) + t + 1) * ((1 + X) * G 1 (B + t) ts)) * S1_eq t
      + (2 * (2 * (B : ℤ[X]) + t + 1) * ((t : ℤ[X]) * X * (1 + X) ^ t)) * G1_eq (B + t) ts
      + (1 + X) ^ t * ih (B + t)

lemma coeff_G (k B : Nat) (ts : List Nat) (n : Nat) :
    (G k B ts).coeff n
      = gsum ts (fun r => if r.sum = n then ((weight ts r * linM B ts r ^ k : Nat) : ℤ) else 0) := by
  unfold G
  have := gsum_map (lcoeff ℤ n).toAddMonoidHom ts
    (fun r => (weight ts r : ℤ[X]) * ((linM B ts r : ℤ[X]) ^ k * X ^ r.sum))
  simp only [LinearMap.toAddMonoidHom_coe, lcoeff_apply] at this
  rw [this]
  apply gsum_congr
  intro r _
  have e : (weight ts r : ℤ[X]) * ((linM B ts r : ℤ[X]) ^ k * X ^ r.sum)
      = C ((weight ts r * linM B ts r ^ k : Nat) : ℤ) * X ^ r.sum := by
    simp only [Nat.cast_mul, Nat.cast_pow, C_mul, C_pow, map_natCast]
    ring
  rw [e, coeff_C_mul_X_pow]
  by_cases h : r.sum = n
  · simp [h]
  · have : ¬ n = r.sum := fun h' => h h'.symm
    simp [h, this]

/-! ## closed forms of `Σ t_k c_k`, `Σ t_k c_k²` -/

/-- the tie correction `Σ_k (t_k³ − t_k)` -/
def tau (ts : List Nat) : Nat := (ts.map fun k => k ^ 3 - k).sum

lemma tau_cons (t : Nat) (ts : List Nat) : ((tau (t :: ts) : Nat) : ℤ) = (t : ℤ) ^ 3 - t + tau ts := by
  unfold tau
  simp only [List.map_cons, List.sum_cons]
  push_cast [Nat.le_self_pow three_ne_zero t]
  ring

lemma AM_eq (B : Nat) (ts : List Nat) :
    ((AM B ts : Nat) : ℤ) = ((B : ℤ) + ts.sum) * ((B : ℤ) + ts.sum + 1) - (B : ℤ) * ((B : ℤ) + 1) := by
  induction ts generalizing B with
  | nil => simp [AM]
  | cons t ts ih =>
    rw [AM, List.sum_cons]
    push_cast
    rw [ih (B + t)]
    push_cast
    ring

lemma QM_eq (B : Nat) (ts : List Nat) :
    3 * ((QM B ts : Nat) : ℤ) + (tau ts : ℤ)
      = 2 * ((B : ℤ) + ts.sum) * ((B : ℤ) + ts.sum + 1) * (2 * ((B : ℤ) + ts.sum) + 1)
        - 2 * (B : ℤ) * ((B : ℤ) + 1) * (2 * (B : ℤ) + 1) := by
  induction ts generalizing B with
  | nil => simp [QM, tau]
  | cons t ts ih =>
    rw [QM, List.sum_cons, tau_cons]
    have := ih (B + t)
    push_cast at this ⊢
    linear_combination this

lemma tau_add_sum (t : List Nat) : tau t + t.sum = (t.map (· ^ 3)).sum := by
  unfold tau
  induction t with
  | nil => rfl
  | cons a t ih =>
    have ha := Nat.sub_add_cancel (Nat.le_self_pow three_ne_zero a)
    simp only [List.map_cons, List.sum_cons]
    omega

lemma sum_cubes_le (t : List Nat) : (t.map (· ^ 3)).sum ≤ t.sum ^ 3 := by
  induction t with
  | nil => simp
  | cons a t ih =>
    rw [List.map_cons, List.sum_cons, List.sum_cons]
    exact (Nat.add_le_add_left ih _).trans (pow_add_pow_le a.zero_le t.sum.zero_le three_ne_zero)

lemma tau_le (ts : List Nat) : tau ts + ts.sum ≤ ts.sum ^ 3 :=
  (tau_add_sum ts).trans_le (sum_cubes_le ts)

/-! ## `2U` and the midrank statistic -/

/-- `2U + n1(n1+1)` is twice the midrank sum of sample 1 (with `j` sample-1 items and `b`
sample-2 items below the current group). -/
lemma twoUof_lin (ts rs : List Nat) (b j : Nat) (h : rs ∈ allocs ts) :
    twoUof ts rs b + (j + rs.sum) * (j + rs.sum + 1) = linM (b + j) ts rs + j * (j + 1) := by
  induction ts generalizing rs b j with
  | nil =>
    simp [allocs] at h; subst h; simp [twoUof, linM]
  | cons t ts ih =>
    obtain ⟨r, rs', hr, hrs, rfl⟩ := (mem_allocs_cons t ts rs).1 h
    obtain ⟨s, rfl⟩ := Nat.exists_eq_add_of_le hr
    have ih' := ih rs' (b + s) (j + r) hrs
    have e : b + s + (j + r) = b + j + (r + s) := by omega
    rw [e] at ih'
    simp only [twoUof, linM, List.sum_cons, Nat.add_sub_cancel_left]
    zify at ih' ⊢
    linear_combination ih'

/-! ## sums against `countEq` -/

/-- a sum of `f(v)·countEq` over a range containing the support is a weighted sum over allocations -/
lemma sum_f_countEq (t : List Nat) (n1 m : Nat) (f : Nat → Nat)
    (hm : ∀ r ∈ allocs t, r.sum = n1 → twoUof t r 0 < m) :
    ∑ v ∈ range m, f v * countEq t n1 (v : ℤ)
      = asum t (fun r => if r.sum = n1 then weight t r * f (twoUof t r 0) else 0) := by
  simp only [countEq_eq_asum, ← asum_mul_left]
  rw [← asum_finset_sum]
  apply asum_congr
  intro r hr
  by_cases h1 : r.sum = n1
  · have hlt := hm r hr h1
    simp only [h1, true_and, Nat.cast_inj, if_true]
    rw [sum_eq_single (twoUof t r 0)]
    · simp; ring
    · intro v _ hv; rw [if_neg (fun h => hv h.symm), Nat.mul_zero]
    · intro h; exfalso; exact h (mem_range.2 hlt)
  · simp [h1]

/-- `Σ weight(r) · (2U(r))^k` over the allocations with `Σ r = n`: the `k`-th raw moment of `2U`
times `C(N,n)` -/
def Mk (k : Nat) (t : List Nat) (n : Nat) : Nat :=
  asum t (fun r => if r.sum = n then weight t r * twoUof t r 0 ^ k else 0)

lemma sum_pow_countEq (k : Nat) (t : List Nat) (n1 : Nat) :
    ∑ v ∈ range (2 * n1 * (sumList t - n1) + 1), v ^ k * countEq t n1 (v : ℤ) = Mk k t n1 := by
  unfold Mk
  apply sum_f_countEq t n1 _ (fun v => v ^ k)
  intro r hr h1
  have := (twoUof_bound t r 0 hr).2
  rw [h1, Nat.zero_add] at this
  rw [sumList_eq]
  omega

lemma M1_coeff (t : List Nat) (n : Nat) :
    ((Mk 1 t n : Nat) : ℤ) + (n : ℤ) * (n + 1) * (G 0 0 t).coeff n = (G 1 0 t).coeff n := by
  unfold Mk
  rw [coeff_G, coeff_G, gsum_natCast, ← gsum_mul_left, ← gsum_add]
  apply gsum_congr
  intro r hr
  by_cases h : r.sum = n
  · have := twoUof_lin t r 0 0 hr
    simp only [Nat.zero_add, Nat.zero_mul, Nat.add_zero, h] at this
    simp only [h, if_true]
    zify at this
    push_cast
    linear_combination (weight t r : ℤ) * this
  · simp [h]

lemma M2_coeff (t : List Nat) (n : Nat) :
    ((Mk 2 t n : Nat) : ℤ) + 2 * ((n : ℤ) * (n + 1)) * (G 1 0 t).coeff n
      = (G 2 0 t).coeff n + ((n : ℤ) * (n + 1)) ^ 2 * (G 0 0 t).coeff n := by
  unfold Mk
  rw [coeff_G, coeff_G, coeff_G, gsum_natCast, ← gsum_mul_left, ← gsum_mul_left, ← gsum_add, ← gsum_add]
  apply gsum_congr
  intro r hr
  by_cases h : r.sum = n
  · have := twoUof_lin t r 0 0 hr
    simp only [Nat.zero_add, Nat.zero_mul, Nat.add_zero, h] at this
    simp only [h, if_true]
    zify at this
    push_cast
    rw [← this]
    ring
  · simp [h]

/-! ## closed forms after cancelling `1 + X` -/

lemma one_add_X_ne_zero : (1 + X : ℤ[X]) ≠ 0 := by
  intro h
  have := congrArg (eval 0) h
  simp at this

lemma G1_closed (t : List Nat) (K : Nat) (hN : t.sum = K + 1) :
    G 1 0 t = C ((AM 0 t : Nat) : ℤ) * (X * (1 + X) ^ K) := by
  apply mul_left_cancel₀ one_add_X_ne_zero
  rw [G1_eq, hN]
  simp only [map_natCast]
  ring

lemma G2_closed (t : List Nat) (K : Nat) (hN : t.sum = K + 2) :
    G 2 0 t = C ((QM 0 t : Nat) : ℤ) * (X * (1 + X) ^ (K + 1))
      + C (((AM 0 t : Nat) : ℤ) ^ 2 - ((QM 0 t : Nat) : ℤ)) * (X ^ 2 * (1 + X) ^ K) := by
  apply mul_left_cancel₀ (pow_ne_zero 2 one_add_X_ne_zero)
  rw [G2_eq, hN]
  simp only [map_sub, map_pow, map_natCast]
  ring

/-- `(N+1) · [Xⁿ] X(1+X)^N = n · C(N+1, n)`, for every `n` -/
lemma coeff_X_mul_one_add_X_pow (N n : Nat) :
    ((N : ℤ) + 1) * (X * (1 + X) ^ N : ℤ[X]).coeff n = n * (Nat.choose (N + 1) n : ℤ) := by
  cases n with
  | zero => simp
  | succ m =>
    rw [coeff_X_mul, coeff_one_add_X_pow]
    have := Nat.add_one_mul_choose_eq N m
    zify at this
    push_cast
    linear_combination this

/-- `(N+2)(N+1) · [Xⁿ] X²(1+X)^N = n(n−1) · C(N+2, n)`, for every `n` -/
lemma coeff_X_sq_mul_one_add_X_pow (N n : Nat) :
    ((N : ℤ) + 2) * ((N : ℤ) + 1) * (X ^ 2 * (1 + X) ^ N : ℤ[X]).coeff n
      = n * ((n : ℤ) - 1) * (Nat.choose (N + 2) n : ℤ) := by
  rcases n with _ | _ | m
  · simp
  · simp [coeff_X_pow_mul']
  · rw [coeff_X_pow_mul, coeff_one_add_X_pow]
    have e1 := Nat.add_one_mul_choose_eq N m
    have e2 := Nat.add_one_mul_choose_eq (N + 1) (m + 1)
    zify at e1 e2
    push_cast
    linear_combination ((N : ℤ) + 2) * e1 + ((m : ℤ) + 1) * e2

lemma Mk_big (k : Nat) (t : List Nat) (n : Nat) (h : t.sum < n) : Mk k t n = 0 := by
  unfold Mk
  apply asum_eq_zero
  intro r hr
  have := (twoUof_bound t r 0 hr).1
  rw [if_neg (by omega)]

lemma Mk_zero (k : Nat) (t : List Nat) (hk : 1 ≤ k) : Mk k t 0 = 0 := by
  unfold Mk
  apply asum_eq_zero
  intro r hr
  by_cases hs : r.sum = 0
  · have := (twoUof_bound t r 0 hr).2
    rw [hs] at this
    have h0 : twoUof t r 0 = 0 := by omega
    rw [h0, if_pos hs, Nat.zero_pow (by omega), Nat.mul_zero]
  · rw [if_neg hs]

lemma Mk1_eq (t : List Nat) (n1 : Nat) :
    Mk 1 t n1 = n1 * (t.sum - n1) * Nat.choose t.sum n1 := by
  by_cases h : n1 ≤ t.sum
  · cases n1 with
    | zero => rw [Mk_zero 1 t (le_refl _)]; simp
    | succ m =>
      obtain ⟨n2, hn2⟩ := Nat.exists_eq_add_of_le h
      have hK : t.sum = (m + n2) + 1 := by omega
      have hsub : t.sum - (m + 1) = n2 := by omega
      have hM := M1_coeff t (m + 1)
      rw [G1_closed t (m + n2) hK, coeff_C_mul, G0_eq, coeff_one_add_X_pow, hK] at hM
      have hA := AM_eq 0 t
      rw [hK] at hA
      have hab := coeff_X_mul_one_add_X_pow (m + n2) (m + 1)
      generalize (X * (1 + X) ^ (m + n2) : ℤ[X]).coeff (m + 1) = a at hM hab
      rw [hsub, hK]
      zify
      push_cast at hM hA hab ⊢
      linear_combination hM + a * hA + ((m : ℤ) + n2 + 2) * hab
  · rw [Mk_big 1 t n1 (by omega), Nat.choose_eq_zero_of_lt (by omega), Nat.mul_zero]

/-- second moment, integer form: `N = K + 2`, `n1 + n2 = N` -/
lemma Mk2_int (t : List Nat) (n1 n2 K : Nat) (hN : t.sum = K + 2) (h : t.sum = n1 + n2) :
    3 * ((K : ℤ) + 2) * ((K : ℤ) + 1) * (Mk 2 t n1 : ℤ)
      = (Nat.choose (K + 2) n1 : ℤ) * (3 * ((K : ℤ) + 2) * ((K : ℤ) + 1) * ((n1 : ℤ) * n2) ^ 2
          + (n1 : ℤ) * n2 * (((K : ℤ) + 2) * ((K : ℤ) + 1) * ((K : ℤ) + 3) - (tau t : ℤ))) := by
  have hA := AM_eq 0 t
  have hQ := QM_eq 0 t
  rw [hN] at hA hQ
  have hn2 : (n2 : ℤ) = (K : ℤ) + 2 - n1 := by omega
  have hM := M2_coeff t n1
  rw [G2_closed t K hN, G1_closed t (K + 1) hN, G0_eq, hN] at hM
  simp only [coeff_add, coeff_C_mul, coeff_one_add_X_pow] at hM
  have e1 := coeff_X_sq_mul_one_add_X_pow K n1
  have e2 := coeff_X_mul_one_add_X_pow (K + 1) n1
  generalize (X ^ 2 * (1 + X) ^ K : ℤ[X]).coeff n1 = a2 at hM e1
  generalize (X * (1 + X) ^ (K + 1) : ℤ[X]).coeff n1 = a1 at hM e2
  rw [hA] at hM
  rw [hn2]
  push_cast at hM hQ e2 ⊢
  -- `hM` is linear in `a1`, `a2`; `e2`, `e1` turn `(K+2)·a1` and `(K+2)(K+1)·a2` into multiples of
  -- `C(K+2, n1)`, with the factors `a1`, `a2` carry in `3(K+2)(K+1)·hM`; `hQ` then removes `QM`
  linear_combination 3 * ((K : ℤ) + 2) * ((K : ℤ) + 1) * hM
    + 3 * ((((K : ℤ) + 2) * ((K : ℤ) + 3)) ^ 2 - (QM 0 t : ℤ)) * e1
    + 3 * ((K : ℤ) + 1) * ((QM 0 t : ℤ) - 2 * ((n1 : ℤ) * (n1 + 1)) * (((K : ℤ) + 2) * ((K : ℤ) + 3))) * e2
    + ((K + 2).choose n1 : ℤ) * (n1 : ℤ) * ((K : ℤ) + 2 - n1) * hQ

lemma Mk_top (k : Nat) (t : List Nat) (hk : 1 ≤ k) : Mk k t t.sum = 0 := by
  unfold Mk
  apply asum_eq_zero
  intro r hr
  by_cases hs : r.sum = t.sum
  · have := (twoUof_bound t r 0 hr).2
    rw [hs] at this
    have h0 : twoUof t r 0 = 0 := by simpa using this
    rw [h0, if_pos hs, Nat.zero_pow (by omega), Nat.mul_zero]
  · rw [if_neg hs]

lemma Mk2_nat (t : List Nat) (n1 : Nat) (hN : 2 ≤ t.sum) :
    3 * t.sum * (t.sum - 1) * Mk 2 t n1
      = Nat.choose t.sum n1 * (3 * t.sum * (t.sum - 1) * (n1 * (t.sum - n1)) ^ 2
          + n1 * (t.sum - n1) * (t.sum * (t.sum - 1) * (t.sum + 1) - tau t)) := by
  by_cases h : n1 ≤ t.sum
  · obtain ⟨K, hK⟩ := Nat.exists_eq_add_of_le hN
    have hK' : t.sum = K + 2 := by omega
    obtain ⟨n2, hn2⟩ := Nat.exists_eq_add_of_le h
    have key := Mk2_int t n1 n2 K hK' hn2
    have hτ : tau t ≤ (K + 2) * (K + 1) * (K + 3) := by
      have := tau_le t
      rw [hK', show (K + 2) ^ 3 = (K + 2) * (K + 1) * (K + 3) + (K + 2) by ring] at this
      omega
    have e1 : K + 2 - 1 = K + 1 := by omega
    have e2 : K + 2 - n1 = n2 := by omega
    rw [hK', e1, e2]
    zify [hτ]
    linear_combination key
  · rw [Mk_big 2 t n1 (by omega), Nat.choose_eq_zero_of_lt (by omega)]
    simp

lemma sumList_filter_eq_Mk (k : Nat) (t : List Nat) (n1 : Nat) :
    sumList (((allocs t).filter fun r => sumList r == n1).map fun r => weight t r * twoUof t r 0 ^ k)
      = Mk k t n1 :=
  sumList_filter_map _ _ _ _ fun r => by simp [sumList_eq]

/-! ## the property theorems -/

/-- **Mean, allocation form.** Summing `2U` over all size-`n1` subsets of the pooled sample
(i.e. over all allocation vectors `r` with `Σ r = n1`, each counted `weight t r = ∏ C(t_k, r_k)`
times) gives `n1 · n2 · C(N, n1)` with `N = Σ t`, `n2 = N − n1`: the exact mean of `2U` is `n1·n2`,
the mean of `U` is `n1·n2/2`, for every tie vector (for `n1 > N` both sides are `0`). -/
theorem twoU_mean_alloc (t : List Nat) (n1 : Nat) :
    sumList (((allocs t).filter fun r => sumList r == n1).map fun r => weight t r * twoUof t r 0)
      = n1 * (sumList t - n1) * Nat.choose (sumList t) n1 := by
  have h := sumList_filter_eq_Mk 1 t n1
  simp only [pow_one] at h
  rw [h, Mk1_eq, sumList_eq]

example : sumList (((allocs [2, 1, 3]).filter fun r => sumList r == 2).map
    fun r => weight [2, 1, 3] r * twoUof [2, 1, 3] r 0) = 2 * 4 * 15 := by
  rw [twoU_mean_alloc]; decide

/-- **Mean of the exact distribution (C03).** `Σ_v v · countEq t n1 v`, over the whole support
`v = 0 … 2·n1·n2` of `2U`, equals `n1 · n2 · C(N, n1)`; since the counts add up to `C(N, n1)`
(`fwdDP_total`), the exact null distribution of `U` defined by the model has mean `n1·n2/2`, which is
the mean used by the normal approximation.  Holds for every tie vector and every `n1`. -/
theorem twoU_mean (t : List Nat) (n1 : Nat) :
    ∑ v ∈ range (2 * n1 * (sumList t - n1) + 1), v * countEq t n1 (v : ℤ)
      = n1 * (sumList t - n1) * Nat.choose (sumList t) n1 := by
  have h := sum_pow_countEq 1 t n1
  simp only [pow_one] at h
  rw [h, Mk1_eq, sumList_eq]

example : ∑ v ∈ range 17, v * countEq [2, 1, 3] 2 (v : ℤ) = 120 :=
  twoU_mean [2, 1, 3] 2

/-- **The tie correction never exceeds `N³ − N`**: `Σ_k (t_k³ − t_k) + N ≤ N³`, so the natural-number
subtraction `N(N−1)(N+1) − Σ_k (t_k³ − t_k)` in the variance statements below is a true subtraction
(nothing is truncated), and the tie-corrected variance is non-negative. -/
theorem tie_correction_le (t : List Nat) :
    sumList (t.map fun k => k ^ 3 - k) + sumList t ≤ sumList t ^ 3 := by
  simp only [sumList_eq]
  exact tau_le t

example : sumList ([2, 1, 3].map fun k => k ^ 3 - k) + sumList [2, 1, 3] ≤ sumList [2, 1, 3] ^ 3 :=
  tie_correction_le [2, 1, 3]

/-- **Second moment, allocation form, any ties.**  For `N = Σ t ≥ 2`:
`3·N·(N−1) · Σ_{r : Σ r = n1} weight(r) · (2U(r))² =
 C(N,n1) · (3·N·(N−1)·(n1 n2)² + n1 n2 · (N(N−1)(N+1) − Σ_k (t_k³ − t_k)))`. -/
theorem twoU_second_moment_alloc (t : List Nat) (n1 : Nat) (hN : 2 ≤ sumList t) :
    3 * sumList t * (sumList t - 1) *
        sumList (((allocs t).filter fun r => sumList r == n1).map
          fun r => weight t r * twoUof t r 0 ^ 2)
      = Nat.choose (sumList t) n1 *
          (3 * sumList t * (sumList t - 1) * (n1 * (sumList t - n1)) ^ 2
            + n1 * (sumList t - n1) *
              (sumList t * (sumList t - 1) * (sumList t + 1) - sumList (t.map fun k => k ^ 3 - k))) := by
  rw [sumList_filter_eq_Mk]
  simp only [sumList_eq] at hN ⊢
  exact Mk2_nat t n1 hN

example : 3 * 6 * 5 * sumList (((allocs [2, 1, 3]).filter fun r => sumList r == 2).map
    fun r => weight [2, 1, 3] r * twoUof [2, 1, 3] r 0 ^ 2) = 15 * (3 * 6 * 5 * 64 + 8 * (210 - 30)) := by
  have h := twoU_second_moment_alloc [2, 1, 3] 2 (by decide)
  exact h

/-- **Variance of the exact distribution with ties (C03).**  For every tie vector with
`N = Σ t ≥ 2` and every `n1` (`n2 = N − n1`):
`3·N·(N−1) · Σ_v v² · countEq t n1 v =
 C(N,n1) · (3·N·(N−1)·(n1 n2)² + n1 n2 · (N(N−1)(N+1) − Σ_k (t_k³ − t_k)))`.
Dividing by `3·N·(N−1)·C(N,n1)` and subtracting the squared mean `(n1 n2)²` (`twoU_mean`) this says
`Var[2U] = (n1 n2/3)·((N+1) − Σ(t³−t)/(N(N−1)))`, i.e.
`Var[U] = (n1 n2/12)·((N+1) − Σ(t³−t)/(N(N−1)))`: exactly the tie-corrected variance used by the
normal approximation. -/
theorem twoU_variance_tied (t : List Nat) (n1 : Nat) (hN : 2 ≤ sumList t) :
    3 * sumList t * (sumList t - 1) *
        ∑ v ∈ range (2 * n1 * (sumList t - n1) + 1), v ^ 2 * countEq t n1 (v : ℤ)
      = Nat.choose (sumList t) n1 *
          (3 * sumList t * (sumList t - 1) * (n1 * (sumList t - n1)) ^ 2
            + n1 * (sumList t - n1) *
              (sumList t * (sumList t - 1) * (sumList t + 1) - sumList (t.map fun k => k ^ 3 - k))) := by
  rw [sum_pow_countEq]
  simp only [sumList_eq] at hN ⊢
  exact Mk2_nat t n1 hN

example : 3 * 6 * 5 * ∑ v ∈ range 17, v ^ 2 * countEq [2, 1, 3] 2 (v : ℤ)
    = 15 * (3 * 6 * 5 * 64 + 8 * (210 - 30)) := by
  have h := twoU_variance_tied [2, 1, 3] 2 (by decide)
  rw [show sumList [2, 1, 3] = 6 from rfl, show Nat.choose 6 2 = 15 from rfl,
    show sumList ([2, 1, 3].map fun k => k ^ 3 - k) = 30 from rfl] at h
  simp only [Nat.reduceMul, Nat.reduceSub, Nat.reduceAdd, Nat.reducePow] at h ⊢
  exact h

/-- for `t = [2, 1, 3]`, `n1 = 2`: `E[(2U)²] = 1200/15 = 80`, `Var[2U] = 80 − 8² = 16 = (8/3)·(7 − 30/30)`. -/
example : ∑ v ∈ range 17, v ^ 2 * countEq [2, 1, 3] 2 (v : ℤ) = 1200 := by
  have h := twoU_variance_tied [2, 1, 3] 2 (by decide)
  rw [show sumList [2, 1, 3] = 6 from rfl, show Nat.choose 6 2 = 15 from rfl,
    show sumList ([2, 1, 3].map fun k => k ^ 3 - k) = 30 from rfl] at h
  simp only [Nat.reduceMul, Nat.reduceSub, Nat.reduceAdd, Nat.reducePow] at h
  omega

/-- **Variance of the exact distribution, untied case (C03).**  For `t = [1,…,1]` (`N` ones) and
every `n1` (`n2 = N − n1`): `3 · Σ_v v² · countEq t n1 v = C(N,n1) · (3·(n1 n2)² + n1 n2 (N+1))`,
i.e. `E[(2U)²] = (n1 n2)² + n1 n2 (N+1)/3`, `Var[U] = n1 n2 (N+1)/12`, also for `N < 2`. -/
theorem twoU_second_moment_untied (N n1 : Nat) :
    3 * ∑ v ∈ range (2 * n1 * (N - n1) + 1), v ^ 2 * countEq (List.replicate N 1) n1 (v : ℤ)
      = Nat.choose N n1 * (3 * (n1 * (N - n1)) ^ 2 + n1 * (N - n1) * (N + 1)) := by
  have hs : (List.replicate N 1).sum = N := by simp
  have hs' : sumList (List.replicate N 1) = N := by rw [sumList_eq, hs]
  have hτ : tau (List.replicate N 1) = 0 := by simp [tau]
  have h := sum_pow_countEq 2 (List.replicate N 1) n1
  rw [hs'] at h
  rw [h]
  by_cases hN : 2 ≤ N
  · have key := Mk2_nat (List.replicate N 1) n1 (by rw [hs]; exact hN)
    rw [hs, hτ, Nat.sub_zero] at key
    have hpos : 0 < N * (N - 1) := Nat.mul_pos (by omega) (by omega)
    apply Nat.eq_of_mul_eq_mul_left hpos
    calc N * (N - 1) * (3 * Mk 2 (List.replicate N 1) n1)
        = 3 * N * (N - 1) * Mk 2 (List.replicate N 1) n1 := by ring
      _ = _ := key
      _ = _ := by ring
  · by_cases h1 : n1 ≤ N
    · have hcase : n1 = 0 ∨ n1 = (List.replicate N 1).sum := by rw [hs]; omega
      rcases hcase with h0 | h0
      · subst h0; rw [Mk_zero 2 _ (by omega)]; simp
      · rw [h0, Mk_top 2 _ (by omega), hs]; simp
    · rw [Mk_big 2 _ n1 (by rw [hs]; omega), Nat.choose_eq_zero_of_lt (by omega)]
      simp

example : 3 * ∑ v ∈ range 25, v ^ 2 * countEq (List.replicate 7 1) 3 (v : ℤ)
    = 35 * (3 * 144 + 12 * 8) := by
  rw [show 25 = 2 * 3 * (7 - 3) + 1 from rfl, twoU_second_moment_untied]
  rfl

/-! ## the same facts for the API-level point masses `pmfAt` (rational form) -/

lemma Mk0_eq (t : List Nat) (n1 : Nat) : Mk 0 t n1 = Nat.choose t.sum n1 := by
  unfold Mk
  rw [← asum_weight]
  apply asum_congr
  intro r _
  simp

lemma Mk2_rat (t : List Nat) (n1 n2 : Nat) (hN : 2 ≤ t.sum) (h : t.sum = n1 + n2) :
    (Mk 2 t n1 : ℚ) = (Nat.choose t.sum n1 : ℚ) *
      (((n1 : ℚ) * n2) ^ 2 + (n1 : ℚ) * n2 *
        (((t.sum : ℚ) + 1) - (tau t : ℚ) / ((t.sum : ℚ) * ((t.sum : ℚ) - 1))) / 3) := by
  obtain ⟨K, hK⟩ := Nat.exists_eq_add_of_le' hN
  have key := congrArg (Int.cast : ℤ → ℚ) (Mk2_int t n1 n2 K hK h)
  rw [hK]
  generalize (Mk 2 t n1) = M at key ⊢
  generalize (Nat.choose (K + 2) n1) = c at key ⊢
  generalize tau t = τ at key ⊢
  push_cast at key ⊢
  have h1 : ((K : ℚ) + 2) ≠ 0 := by positivity
  have h2 : ((K : ℚ) + 2 - 1) ≠ 0 := by
    rw [show ((K : ℚ) + 2 - 1) = (K : ℚ) + 1 by ring]; positivity
  field_simp
  linear_combination key

lemma sum_pow_countEq_rat (k : Nat) (t : List Nat) (n1 : Nat) :
    ∑ v ∈ range (2 * n1 * (sumList t - n1) + 1), (v : ℚ) ^ k * (countEq t n1 (v : ℤ) : ℚ) = Mk k t n1 := by
  exact_mod_cast sum_pow_countEq k t n1

/-- **Mean of `U` under the API-level point masses (C03).**  For a well-formed input
(`Σ effT = n1 + n2`), `Σ_v (v/2) · pmfAt n1 n2 t v`, over the grid `v = 0 … 2·n1·n2` of doubled
statistic values, is `n1·n2/2`: the mean used by the normal approximation is the exact mean. -/
theorem U_mean_pmf (n1 n2 : Nat) (t : List Nat) (hN : sumList (effT n1 n2 t) = n1 + n2) :
    ∑ v ∈ range (2 * n1 * n2 + 1), ((v : ℚ) / 2) * pmfAt n1 n2 t (v : ℤ) = ((n1 : ℚ) * n2) / 2 := by
  have h := twoU_mean (effT n1 n2 t) n1
  rw [hN, Nat.add_sub_cancel_left] at h
  have hC : (0 : ℚ) < (Nat.choose (n1 + n2) n1 : ℚ) := by
    exact_mod_cast Nat.choose_pos (Nat.le_add_right _ _)
  have hq : (∑ v ∈ range (2 * n1 * n2 + 1), (v : ℚ) * (countEq (effT n1 n2 t) n1 (v : ℤ) : ℚ))
      = (n1 : ℚ) * n2 * (Nat.choose (n1 + n2) n1 : ℚ) := by exact_mod_cast h
  simp only [pmfAt_eq_countEq n1 n2 t _ hN]
  have : ∀ v ∈ range (2 * n1 * n2 + 1),
      ((v : ℚ) / 2) * ((countEq (effT n1 n2 t) n1 (v : ℤ) : ℚ) / (Nat.choose (n1 + n2) n1 : ℚ))
        = ((v : ℚ) * (countEq (effT n1 n2 t) n1 (v : ℤ) : ℚ)) / (2 * (Nat.choose (n1 + n2) n1 : ℚ)) := by
    intro v _; ring
  rw [sum_congr rfl this, ← sum_div, hq]
  field_simp

example : ∑ v ∈ range (2 * 2 * 4 + 1), ((v : ℚ) / 2) * pmfAt 2 4 [2, 1, 3] (v : ℤ) = ((2 : ℕ) * (4 : ℕ) : ℚ) / 2 :=
  U_mean_pmf 2 4 [2, 1, 3] (by decide)

/-- The variance formula for every pool size: for `n1 + n2 < 2` one sample is empty and both sides
are `0` (the quotient by `N (N − 1) = 0` is multiplied by `n1 n2 = 0`). -/
lemma U_variance_pmf_any (n1 n2 : Nat) (t : List Nat) (hN : sumList (effT n1 n2 t) = n1 + n2) :
    ∑ v ∈ range (2 * n1 * n2 + 1), ((v : ℚ) / 2 - ((n1 : ℚ) * n2) / 2) ^ 2 * pmfAt n1 n2 t (v : ℤ)
      = ((n1 : ℚ) * n2) / 12 *
          ((((n1 + n2 : Nat) : ℚ) + 1)
            - (sumList ((effT n1 n2 t).map fun k => k ^ 3 - k) : ℚ)
                / (((n1 + n2 : Nat) : ℚ) * (((n1 + n2 : Nat) : ℚ) - 1))) := by
  by_cases h2 : 2 ≤ n1 + n2
  · simp only [pmfAt_eq_countEq n1 n2 t _ hN]
    generalize effT n1 n2 t = T at hN ⊢
    have hs : T.sum = n1 + n2 := by rw [← sumList_eq]; exact hN
    have e : ∀ k, ∑ v ∈ range (2 * n1 * n2 + 1), (v : ℚ) ^ k * (countEq T n1 (v : ℤ) : ℚ) = Mk k T n1 := by
      intro k
      have := sum_pow_countEq_rat k T n1
      rwa [hN, Nat.add_sub_cancel_left] at this
    have e0 := e 0
    have e1 := e 1
    have e2 := e 2
    simp only [pow_zero, one_mul, pow_one] at e0 e1
    rw [Mk0_eq, hs] at e0
    rw [Mk1_eq, hs, Nat.add_sub_cancel_left] at e1
    rw [Mk2_rat T n1 n2 (by omega) hs, hs] at e2
    push_cast at e1
    rw [show (sumList (T.map fun k => k ^ 3 - k) : ℚ) = (tau T : ℚ) by rw [sumList_eq]; rfl]
    generalize (((n1 + n2 : Nat) : ℚ) + 1) - (tau T : ℚ) / (((n1 + n2 : Nat) : ℚ) * (((n1 + n2 : Nat) : ℚ) - 1)) = W at e2 ⊢
    have hC : (Nat.choose (n1 + n2) n1 : ℚ) ≠ 0 := by
      exact_mod_cast (Nat.choose_pos (Nat.le_add_right _ _)).ne'
    generalize (Nat.choose (n1 + n2) n1 : ℚ) = c at e0 e1 e2 hC ⊢
    -- expand the square; the three sums are the raw moments of order 0, 1, 2
    have hterm : ∀ v ∈ range (2 * n1 * n2 + 1),
        ((v : ℚ) / 2 - ((n1 : ℚ) * n2) / 2) ^ 2 * ((countEq T n1 (v : ℤ) : ℚ) / c)
          = ((v : ℚ) ^ 2 * (countEq T n1 (v : ℤ) : ℚ)) * (1 / (4 * c))
            - ((v : ℚ) * (countEq T n1 (v : ℤ) : ℚ)) * (((n1 : ℚ) * n2) / (2 * c))
            + (countEq T n1 (v : ℤ) : ℚ) * ((((n1 : ℚ) * n2) / 2) ^ 2 / c) := by
      intro v _; ring
    rw [sum_congr rfl hterm, sum_add_distrib, sum_sub_distrib, ← sum_mul, ← sum_mul, ← sum_mul, e0, e1, e2]
    field_simp
    ring
  · have h : n1 = 0 ∨ n2 = 0 := by omega
    rcases h with h | h <;> subst h <;> simp

/-- **Variance of `U` under the API-level point masses (C03).**  For a well-formed input with
`N = n1 + n2 ≥ 2`, the variance `Σ_v (v/2 − n1 n2/2)² · pmfAt n1 n2 t v` of the exact distribution
equals `n1 n2 / 12 · ((N+1) − Σ_k (t_k³ − t_k) / (N (N−1)))`, the tie-corrected variance used by the
normal approximation (`t_k` ranging over the effective tie vector, all ones when `t` is empty). -/
theorem U_variance_pmf (n1 n2 : Nat) (t : List Nat) (hN : sumList (effT n1 n2 t) = n1 + n2)
    (h2 : 2 ≤ n1 + n2) :
    ∑ v ∈ range (2 * n1 * n2 + 1), ((v : ℚ) / 2 - ((n1 : ℚ) * n2) / 2) ^ 2 * pmfAt n1 n2 t (v : ℤ)
      = ((n1 : ℚ) * n2) / 12 *
          ((((n1 + n2 : Nat) : ℚ) + 1)
            - (sumList ((effT n1 n2 t).map fun k => k ^ 3 - k) : ℚ)
                / (((n1 + n2 : Nat) : ℚ) * (((n1 + n2 : Nat) : ℚ) - 1))) :=
  U_variance_pmf_any n1 n2 t hN

example : ∑ v ∈ range (2 * 2 * 4 + 1), ((v : ℚ) / 2 - ((2 : ℕ) * (4 : ℕ) : ℚ) / 2) ^ 2 * pmfAt 2 4 [2, 1, 3] (v : ℤ)
    = ((2 : ℕ) * (4 : ℕ) : ℚ) / 12 * ((((2 + 4 : Nat) : ℚ) + 1)
        - (sumList ((effT 2 4 [2, 1, 3]).map fun k => k ^ 3 - k) : ℚ)
            / (((2 + 4 : Nat) : ℚ) * (((2 + 4 : Nat) : ℚ) - 1))) :=
  U_variance_pmf 2 4 [2, 1, 3] (by decide) (by decide)

/-! ## the same sums evaluated directly -/

example : ∑ v ∈ range 17, v * countEq [2, 1, 3] 2 (v : ℤ) = 120 := by decide +kernel
example : ∑ v ∈ range 17, v ^ 2 * countEq [2, 1, 3] 2 (v : ℤ) = 1200 := by decide +kernel
example : ∑ v ∈ range 13, v ^ 2 * countEq [1, 1, 1, 1, 1] 2 (v : ℤ) = 480 := by decide +kernel

end MV.UDist
