import MV.Props.C02
import MV.Generated.Code
/-!
# C02 — the mechanically translated Go helper functions

`MV/Generated/Code.lean` is regenerated from the Go source on every run.  Proved here about the six
translated functions: `maxint`, `minint` are `max`, `min` on `Int`; `sumint`, `hasTies`, run on a slice
of naturals, return the model's `sumList`, `hasTies`; `twoUmin`, `twoUmax`, run on a tie vector and a
coefficient slice (`toA`), return the model's `twoUminM`, `twoUmaxM` of `MV/Model/UDist.lean`
(`twoUmin_eq_general`, `twoUmax_eq_of_le`; `*_aCoef` for the coefficients `aCoef t` the code uses).
What the model's bounds say about `2U` is in `C02AK.lean` (`twoUmin_le`, `le_twoUmax`).
-/
namespace MV.Generated.Code

open MV.UDist (greedy aCoef)

/-- Go `[]int` holding the natural numbers of `l` -/
def toA (l : List Nat) : Array Int := (l.map (fun (n : Nat) => (n : Int))).toArray

/-- Elaboration pitfall: written without a binder type, `l.map (fun n => (n : Int))` elaborates to
`List.map id` applied to the *monadic coercion* of `l` to `List Int`; it is the same list. -/
lemma map_coe_unannotated (l : List Nat) :
    l.map (fun n => (n : Int)) = l.map (fun (n : Nat) => (n : Int)) := by
  induction l with
  | nil => rfl
  | cons x l ih => simpa using ih

/-- The translated Go `maxint` is the maximum of its two integer arguments. -/
theorem maxint_eq (a b : Int) : maxint a b = max a b := by
  unfold maxint
  split_ifs with h
  · exact (max_eq_left (of_decide_eq_true h).le).symm
  · exact (max_eq_right (not_lt.1 fun hlt => h (decide_eq_true hlt))).symm

example : maxint 3 (-5) = 3 ∧ maxint (-5) 3 = 3 ∧ maxint 2 2 = 2 := by decide

/-- The translated Go `minint` is the minimum of its two integer arguments. -/
theorem minint_eq (a b : Int) : minint a b = min a b := by
  unfold minint
  split_ifs with h
  · exact (min_eq_left (of_decide_eq_true h).le).symm
  · exact (min_eq_right (not_lt.1 fun hlt => h (decide_eq_true hlt))).symm

example : minint 3 (-5) = -5 ∧ minint (-5) 3 = -5 ∧ minint 2 2 = 2 := by decide

lemma foldl_add_cast (xs : List Nat) (s : Nat) :
    (xs.map (fun (n : Nat) => (n : Int))).foldl (fun sum x => sum + x) (s : Int)
      = ((xs.foldl (· + ·) s : Nat) : Int) := by
  induction xs generalizing s with
  | nil => rfl
  | cons x xs ih =>
    simp only [List.map_cons, List.foldl_cons]
    rw [← Nat.cast_add, ih]

/-- The translated Go `sumint`, run on a slice of non-negative integers, returns the model's
`sumList` of the same numbers. -/
theorem sumint_eq (xs : List Nat) :
    sumint ((xs.map (fun (n : Nat) => (n : Int))).toArray) = ((MV.UDist.sumList xs : Nat) : Int) := by
  unfold sumint MV.UDist.sumList
  simp only [List.foldl_toArray']
  exact foldl_add_cast xs 0

example : sumint #[1, 2, 4] = 7 ∧ MV.UDist.sumList [1, 2, 4] = 7 := by decide

/-- The translated Go `hasTies`, run on a tie vector of non-negative integers, returns the model's
`hasTies` (some group has more than one element). -/
theorem hasTies_eq (t : List Nat) :
    hasTies ((t.map (fun (n : Nat) => (n : Int))).toArray) = MV.UDist.hasTies t := by
  unfold hasTies MV.UDist.hasTies
  rw [Bool.eq_iff_iff]
  simp [List.any_map, Function.comp_def]

example : hasTies #[1, 2, 1] = true ∧ MV.UDist.hasTies [1, 2, 1] = true ∧
    hasTies #[1, 1, 1] = false ∧ MV.UDist.hasTies [1, 1, 1] = false := by
  refine ⟨?_, by decide, ?_, by decide⟩
  · exact (hasTies_eq [1, 2, 1]).trans (by decide)
  · exact (hasTies_eq [1, 1, 1]).trans (by decide)

/-- one iteration of the Go loop body: state `(n1_k, twoU)`, inputs `(t[k-1], a[k])` -/
def step (s : Int × Int) (p : Int × Int) : Int × Int :=
  (s.1 - minint s.1 p.1, s.2 + minint s.1 p.1 * p.2)

/-- the (t[k-1], a[k]) pairs read by the loops, for k = 1..K, in increasing k -/
def pairs (t a : List Nat) (K : Nat) : List (Int × Int) :=
  (List.range K).map fun i => (((t.getD i 0 : Nat) : Int), ((a.getD i 0 : Nat) : Int))

lemma toA_size (l : List Nat) : (toA l).size = l.length := by simp [toA]

lemma toA_getD (l : List Nat) (i : Nat) : (toA l).getD i 0 = ((l.getD i 0 : Nat) : Int) := by
  unfold toA
  rw [Array.getD_eq_getD_getElem?, List.getD_eq_getElem?_getD]
  simp only [List.getElem?_toArray, List.getElem?_map]
  cases l[i]? <;> simp

lemma intUp_map_pairs (t a : List Nat) :
    (intUp 1 (((toA t).size : Nat) + 1)).map
      (fun k => ((toA t).getD (k - 1).toNat 0, (toA (0 :: a)).getD k.toNat 0))
      = pairs t a t.length := by
  unfold intUp pairs
  rw [toA_size, List.map_map]
  have h : ((t.length : Int) + 1 - 1).toNat = t.length := by omega
  rw [h]
  apply List.map_congr_left
  intro i _
  have h1 : ((1 : Int) + (i : Int) - 1).toNat = i := by omega
  have h2 : ((1 : Int) + (i : Int)).toNat = i + 1 := by omega
  simp only [Function.comp, h1, h2, toA_getD, List.getD_cons_succ]

lemma intDown_eq_reverse (K : Nat) : intDown (K : Int) 0 = (intUp 1 ((K : Int) + 1)).reverse := by
  unfold intDown intUp
  rw [show ((K : Int) - 0).toNat = K by omega, show ((K : Int) + 1 - 1).toNat = K by omega,
    ← List.map_reverse]
  conv_rhs => rw [List.range_eq_range', List.reverse_range', List.map_map]
  refine List.map_congr_left fun i hi => ?_
  have := List.mem_range.1 hi
  simp only [Function.comp_apply]
  omega

lemma pairs_cons (x : Nat) (t a : List Nat) (K : Nat) :
    pairs (x :: t) a (K + 1) = ((x : Int), ((a.headD 0 : Nat) : Int)) :: pairs t a.tail K := by
  unfold pairs
  rw [List.range_succ_eq_map, List.map_cons, List.map_map]
  cases a <;> rfl

/-- reading the pairs downwards is reading the reversed lists upwards, provided `a` covers `t` -/
lemma pairs_reverse (t a : List Nat) (h : t.length ≤ a.length) :
    (pairs t a t.length).reverse = pairs t.reverse (a.take t.length).reverse t.length := by
  unfold pairs
  rw [← List.map_reverse, List.range_eq_range', List.reverse_range', List.map_map,
    ← List.range_eq_range']
  refine List.map_congr_left fun i hi => ?_
  have hi := List.mem_range.1 hi
  simp only [Function.comp_apply, List.getD_eq_getElem?_getD]
  rw [List.getElem?_reverse hi, List.getElem?_reverse (by simpa [h] using hi), List.length_take,
    min_eq_left h, List.getElem?_take_of_lt (by omega), Nat.zero_add]

@[simp] lemma greedy_nil_right (r : Nat) (t : List Nat) : greedy r t [] = 0 := by
  cases t <;> rfl

lemma greedy_cons (r x : Nat) (t a : List Nat) :
    greedy r (x :: t) a = min r x * a.headD 0 + greedy (r - min r x) t a.tail := by
  cases a with
  | nil => simp
  | cons y a => rfl

lemma step_cast (r x y : Nat) (u : Int) :
    step ((r : Int), u) ((x : Int), (y : Int))
      = (((r - min r x : Nat) : Int), u + ((min r x * y : Nat) : Int)) := by
  unfold step
  rw [minint_eq, Nat.cast_sub (Nat.min_le_left r x), Nat.cast_mul, Nat.cast_min]

/-- the loop over the pairs of `t` and `a` adds the greedy sum to `twoU`; a too short `a` reads as
zeros in Go and ends the greedy sum in the model -/
lemma foldl_step_pairs (r : Nat) (u : Int) (t a : List Nat) :
    ((pairs t a t.length).foldl step ((r : Int), u)).2 = u + ((greedy r t a : Nat) : Int) := by
  induction t generalizing r u a with
  | nil => simp [pairs, greedy]
  | cons x t ih =>
    rw [List.length_cons, pairs_cons, List.foldl_cons, step_cast, ih, greedy_cons]
    push_cast
    ring

lemma twoUmin_unfold (n1 : Int) (T A : Array Int) :
    twoUmin n1 T A
      = (((intUp 1 ((T.size : Nat) + 1)).map
          (fun k => (T.getD (k - 1).toNat 0, A.getD k.toNat 0))).foldl step (n1, (-n1) * n1)).2 := by
  unfold twoUmin
  rw [List.foldl_map]
  rfl

lemma twoUmax_unfold (n1 : Int) (T A : Array Int) :
    twoUmax n1 T A
      = (((intDown (T.size : Nat) 0).map
          (fun k => (T.getD (k - 1).toNat 0, A.getD k.toNat 0))).foldl step (n1, (-n1) * n1)).2 := by
  unfold twoUmax
  rw [List.foldl_map]
  rfl

/-- The translated Go `twoUmax`, called with the tie vector `t` and the Go coefficient slice `0 :: a`
(entry 0 unused), returns the model's `twoUmaxM` (greedy sum from the highest rank minus `n1²`)
whenever `a` is at least as long as `t`. -/
theorem twoUmax_eq_of_le (n1 : Nat) (t a : List Nat) (h : t.length ≤ a.length) :
    twoUmax (n1 : Int) (toA t) (toA (0 :: a)) = MV.UDist.twoUmaxM n1 t a := by
  have := foldl_step_pairs n1 (-(n1 : Int) * n1) t.reverse (a.take t.length).reverse
  rw [List.length_reverse] at this
  rw [twoUmax_unfold, toA_size, intDown_eq_reverse, List.map_reverse, ← toA_size, intUp_map_pairs,
    pairs_reverse t a h, this]
  unfold MV.UDist.twoUmaxM
  push_cast
  ring

/-- The translated Go `twoUmin`, called with the tie vector `t` and the Go coefficient slice `0 :: a`
(entry 0 unused), returns the model's `twoUminM` (greedy sum from the lowest rank minus `n1²`), for
coefficient lists of any length: a too short slice reads as zeros in Go and ends the greedy sum in
the model; a too long one is ignored by both. -/
theorem twoUmin_eq_general (n1 : Nat) (t a : List Nat) :
    twoUmin (n1 : Int) (toA t) (toA (0 :: a)) = MV.UDist.twoUminM n1 t a := by
  rw [twoUmin_unfold, intUp_map_pairs, foldl_step_pairs]
  unfold MV.UDist.twoUminM
  push_cast
  ring

example : twoUmin ((2 : Nat) : Int) (toA [1, 2, 1]) (toA (0 :: [1])) = -3 ∧
    twoUmin ((2 : Nat) : Int) (toA [1, 2, 1]) (toA (0 :: [1, 4, 7, 9])) = 1 := by
  rw [twoUmin_eq_general, twoUmin_eq_general]; decide

/-- `twoUmin_eq_general` for a coefficient list of matching length, the case the code runs in. -/
theorem twoUmin_eq (n1 : Nat) (t a : List Nat) (h : a.length = t.length) :
    twoUmin (n1 : Int) (toA t) (toA (0 :: a)) = MV.UDist.twoUminM n1 t a :=
  twoUmin_eq_general n1 t a

example : twoUmin 2 #[1, 2, 1] #[0, 1, 4, 7] = 1 ∧ MV.UDist.twoUminM 2 [1, 2, 1] [1, 4, 7] = 1 := by
  decide

example : twoUmin ((2 : Nat) : Int) (toA [1, 2, 1]) (toA (0 :: [1, 4, 7])) = 1 := by
  rw [twoUmin_eq 2 [1, 2, 1] [1, 4, 7] rfl]; decide

/-- `twoUmax_eq_of_le` for a coefficient list of matching length, the case the code runs in. -/
theorem twoUmax_eq (n1 : Nat) (t a : List Nat) (h : a.length = t.length) :
    twoUmax (n1 : Int) (toA t) (toA (0 :: a)) = MV.UDist.twoUmaxM n1 t a :=
  twoUmax_eq_of_le n1 t a (le_of_eq h.symm)

example : twoUmax 2 #[1, 2, 1] #[0, 1, 4, 7] = 7 ∧ MV.UDist.twoUmaxM 2 [1, 2, 1] [1, 4, 7] = 7 := by
  decide

example : twoUmax ((2 : Nat) : Int) (toA [1, 2, 1]) (toA (0 :: [1, 4, 7])) = 7 := by
  rw [twoUmax_eq 2 [1, 2, 1] [1, 4, 7] rfl]; decide

/-- the hypothesis `t.length ≤ a.length` of `twoUmax_eq_of_le` cannot be dropped: with a too short
coefficient table the model reverses a misaligned list. -/
example : twoUmax 2 #[1, 2, 1] #[0, 1, 4] = 0 ∧ MV.UDist.twoUmaxM 2 [1, 2, 1] [1, 4] = 1 := by
  decide

/-- For every tie vector `t` and every `n1`, the translated Go `twoUmin` called with the Go
coefficient slice `0 :: aCoef t` returns the model's `twoUminM n1 t (aCoef t)`. -/
theorem twoUmin_aCoef (n1 : Nat) (t : List Nat) :
    twoUmin (n1 : Int) (toA t) (toA (0 :: aCoef t)) = MV.UDist.twoUminM n1 t (aCoef t) :=
  twoUmin_eq n1 t (aCoef t) (MV.UDist.aCoef_length t)

example : aCoef [1, 2, 1] = [1, 4, 7] ∧
    twoUmin ((2 : Nat) : Int) (toA [1, 2, 1]) (toA (0 :: aCoef [1, 2, 1])) = 1 := by
  refine ⟨by decide, ?_⟩
  rw [twoUmin_aCoef]; decide

/-- For every tie vector `t` and every `n1`, the translated Go `twoUmax` called with the Go
coefficient slice `0 :: aCoef t` returns the model's `twoUmaxM n1 t (aCoef t)`. -/
theorem twoUmax_aCoef (n1 : Nat) (t : List Nat) :
    twoUmax (n1 : Int) (toA t) (toA (0 :: aCoef t)) = MV.UDist.twoUmaxM n1 t (aCoef t) :=
  twoUmax_eq n1 t (aCoef t) (MV.UDist.aCoef_length t)

example : twoUmax ((2 : Nat) : Int) (toA [1, 2, 1]) (toA (0 :: aCoef [1, 2, 1])) = 7 := by
  rw [twoUmax_aCoef]; decide

end MV.Generated.Code
