import MV.Props.FactsHolds
/-! Source facts the C10 model relies on (checked against the facts regenerated from /repo on every run). -/
namespace MV.Facts

def expectedC10 : List (String × String) := [("lits:stats.Sample.Quantile", "0 0 0 0 0 1 1 1 1 1 1 1 3.0 3.0")]

/-- the constants and literals the C10 model mirrors are still what the source says -/
theorem facts_C10 : holdsAll expectedC10 = true := by decide +kernel


/-- State that outlives a call, as extracted from the source on this run: the package-level
variables of the packages this property's code lives in, the functions (other than `init`) that
assign to them or call methods on them, and the fields of the property's struct types. The model is
a pure function of the arguments and of these fields; a new variable, writer or field is state the
model does not know of. The digest-valued `shape:` entry covers everything the call graph
(resolved by go/types) reaches from the functions declared in the property's anchor files: per
function, method (with receiver kind), package variable and constant, its numeric literals, its comparison operators, the
package variables it reads and its writes through parameters or the receiver (including in-place
`sort.*`/`copy`/`append`). The entries behind the digest are in `shape_expected.txt` and in a
comment of the generated file. -/
def stateC10 : List (String × String) := [("globals:stats", "ErrMismatchedSamples ErrSampleSize ErrSamplesEqual ErrZeroVariance MannWhitneyExactLimit MannWhitneyTiesExactLimit StdNormal _KDEBoundaryMethod_index _KDEKernel_index _LocationHypothesis_index inf nan quantileCIApproxThreshold"), ("globalwrites:stats", "MannWhitneyUTest:StdNormal.CDF"), ("fields:stats.Sample", "Xs:[]float64 Weights:[]float64 Sorted:bool"), ("fields:stats.sampleSorter", "xs:[]float64 weights:[]float64"), ("shape:C10", "n=75 fnv64a=1a763a3bd98fce3c")]

/-- the source has exactly the package-level variables, writers and struct fields the model accounts for -/
theorem state_C10 : holdsAll stateC10 = true := by
  repeat (refine holdsAll_cons rfl ?_)
  exact holdsAll_nil

end MV.Facts
