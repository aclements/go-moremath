import Mathlib.Tactic
import MV.Props.C19
import MV.Props.C18DFS
/-!
# C19 (CHK) — the Cooper–Harvey–Kennedy dominator routine and the dominance-frontier routine

Mirrors `idomCHK` / `domFrontierCHK` of `MV/Model/Graph.lean` (graphalg/dom.go).  The results, in
`MV.Graph`:
* `idomCHK_eq_spec`: the iteration computes `idomSpec`; `chk_converged`, `chkIter_fuel_irrelevant`:
  it has converged when the fuel `g.size + 3` ends, already after `g.size` passes;
* `intersect_nca`: `intersect` returns nearest common ancestors; `chk_fixpoint_correct_partial`:
  which fixed points of a pass are the dominator tree;
* `domFrontierCHK_spec`, `domFrontierCHK_nodup`, `dfSpec_indeg`: the frontier routine on `idomSpec`
  computes `dfSpec`, but for a root with one incoming edge, without duplicates.
The helpers are in `MV.Graph.CHK`.

Frontier.  Both loops and the runner walk only append to the lists of an array (`Adds`), so one
fold lemma gives, for any `idom` input, what each list contains and that it has no duplicates; on
the true `idom` array the walk from a predecessor `p` of `y` visits the dominators of `p` that do
not strictly dominate `y` (`mem_walkL`).

Dominators.  The `idom` array is read as a tree: `Up A x c` says `c` is on the parent chain of `x`.
* `PO`: the post-order numbers are injective and largest at the root, and every other reachable
  node has a predecessor `π x` with a larger number (the DFS gives one, `po_dfs`).
* `TI`: processed nodes are reachable and parent pointers increase the number, so chains end at the
  root (`TI.up_root'`) and `intersect` returns nearest common ancestors (`intersect_spec`); the fold
  over the predecessors then yields the node whose chain is the common part of their chains
  (`newIdom_up`).
* `Inv k θ`: in pass `k`, with the nodes numbered `≥ θ` already treated — chains stay inside the
  `π`-chains (`anc`, `nest`), every dominator of `x` is on the chain of `x` (`l1`, `l2`), a
  recomputed parent is not below the stored one (`ca`; hence chains only shrink), and every chain
  element of `x` lies on every walk from the root to `x` with fewer than `k` nodes (`u`).  One
  update keeps it (`step_inv`, through the description of the new chains in `UpdH`), a pass lowers
  `θ` to `0`, and the next pass starts with `k + 1`.
* `Good`: `Inv` together with "every chain element is a dominator", which the last clause gives
  once `k > g.size` (`Inv.correct`); the iteration reaches it within the fuel (`chkIter_good`), and
  such an array is unique, is `idomSpec` up to the root entry, and is left unchanged by a pass.
-/
namespace MV.Graph
namespace CHK

lemma transpose_getD (g : G) (v : Nat) (hv : v < g.size) :
    (transpose g).getD v [] =
      (List.range g.size).flatMap fun u =>
        (out g u).filterMap fun w => if w == v then some u else none := by
  simp [transpose, List.getD, hv]

lemma mem_transpose (g : G) (u v : Nat) (hv : v < g.size) :
    u ∈ (transpose g).getD v [] ↔ Edge g u v := by
  rw [transpose_getD g v hv]
  simp only [List.mem_flatMap, List.mem_range, List.mem_filterMap, Edge,
    Option.ite_none_right_eq_some, beq_iff_eq, Option.some.injEq]
  constructor
  · rintro ⟨a, ha, w, hw, rfl, rfl⟩
    exact ⟨ha, hw⟩
  · rintro ⟨hu, hm⟩
    exact ⟨u, hu, v, hm, rfl, rfl⟩

lemma length_filterMap_src (l : List Nat) (v u : Nat) :
    (l.filterMap fun w => if w == v then some u else none).length = (l.filter (· == v)).length := by
  induction l with
  | nil => simp
  | cons w l ih =>
    -- both lists gain an element exactly when `w = v`
    simp only [beq_iff_eq] at ih ⊢
    rw [List.filterMap_cons, List.filter_cons]
    by_cases h : w = v
    · simp [h, ih]
    · simp [h, ih]

lemma transpose_root_length (g : G) (root : Nat) (hr : root < g.size) :
    ((transpose g).getD root []).length = rootInDeg g root := by
  rw [transpose_getD g root hr, rootInDeg, ← List.sum_eq_foldl, List.length_flatMap]
  simp only [length_filterMap_src]

/-- the immediate dominator as a function -/
def tid (g : G) (root v : Nat) : Nat := (idomEntry g root v).toNat

lemma tid_spec (g : G) (hwf : WF g) (root v : Nat) (hr : root < g.size) (hvr : v ≠ root)
    (hp : Path g root v) :
    idomEntry g root v = (tid g root v : Int) ∧ tid g root v ≠ v ∧ Dom g root (tid g root v) v ∧
      ∀ e, e ≠ v → Dom g root e v → Dom g root e (tid g root v) := by
  obtain ⟨d, hd, he⟩ := idomEntry_reach g hwf root v hr hvr hp
  have : tid g root v = d := by simp [tid, he]
  rw [this]
  exact ⟨he, (isIdom_iff g hwf root d v hr).1 hd⟩

lemma dom_tid_iff (g : G) (hwf : WF g) (root v x : Nat) (hr : root < g.size) (hvr : v ≠ root)
    (hp : Path g root v) : Dom g root x v ↔ x = v ∨ Dom g root x (tid g root v) := by
  obtain ⟨_, h2, h3, h4⟩ := tid_spec g hwf root v hr hvr hp
  constructor
  · intro h
    by_cases hx : x = v
    · exact Or.inl hx
    · exact Or.inr (h4 x hx h)
  · rintro (h | h)
    · subst h; exact Dom.refl hp
    · exact h.trans h3

/-- `df'` arises from `df` by appending to list `x` the `y` with `S x y` not yet in it -/
def Adds (df df' : Array (List Nat)) (S : Nat → Nat → Prop) : Prop :=
  df'.size = df.size ∧ ∀ x < df.size, ((df.getD x []).Nodup → (df'.getD x []).Nodup) ∧
    ∀ y, y ∈ df'.getD x [] ↔ y ∈ df.getD x [] ∨ S x y

lemma Adds.of_mem {df : Array (List Nat)} {S : Nat → Nat → Prop}
    (h : ∀ x y, S x y → y ∈ df.getD x []) : Adds df df S :=
  ⟨rfl, fun x _ => ⟨id, fun y => ⟨Or.inl, fun hy => hy.elim id (h x y)⟩⟩⟩

lemma Adds.of_false {df : Array (List Nat)} {S : Nat → Nat → Prop} (h : ∀ x y, ¬ S x y) :
    Adds df df S :=
  Adds.of_mem fun x y hs => (h x y hs).elim

lemma Adds.trans {a b c : Array (List Nat)} {S T : Nat → Nat → Prop} (h1 : Adds a b S)
    (h2 : Adds b c T) : Adds a c fun x y => S x y ∨ T x y := by
  refine ⟨h2.1.trans h1.1, fun x hx => ?_⟩
  obtain ⟨n1, m1⟩ := h1.2 x hx
  obtain ⟨n2, m2⟩ := h2.2 x (h1.1 ▸ hx)
  exact ⟨n2 ∘ n1, fun y => by rw [m2, m1, or_assoc]⟩

lemma Adds.congr {a b : Array (List Nat)} {S T : Nat → Nat → Prop} (h : Adds a b S)
    (hST : ∀ x y, S x y ↔ T x y) : Adds a b T :=
  ⟨h.1, fun x hx => ⟨(h.2 x hx).1, fun y => by rw [(h.2 x hx).2, hST]⟩⟩

lemma Adds.foldl {β : Type} {f : Array (List Nat) → β → Array (List Nat)}
    {R : β → Nat → Nat → Prop} (h : ∀ df b, Adds df (f df b) (R b)) (l : List β)
    (df : Array (List Nat)) : Adds df (l.foldl f df) fun x y => ∃ b ∈ l, R b x y := by
  induction l generalizing df with
  | nil => exact Adds.of_false fun _ _ ⟨_, hb, _⟩ => List.not_mem_nil hb
  | cons b l ih => exact ((h df b).trans (ih _)).congr fun x y =>
      (List.exists_mem_cons_iff (R · x y) b l).symm

/-- nodes visited by the runner walk -/
def walkL (idom : Array Int) (bdom : Int) : Nat → Int → List Nat
  | 0, _ => []
  | f + 1, runner =>
    if runner == bdom || runner < 0 then []
    else runner.toNat :: walkL idom bdom f (idom.getD runner.toNat (-1))

lemma push_adds (df : Array (List Nat)) (r b : Nat) :
    Adds df (if (df.getD r []).contains b then df else df.setIfInBounds r (df.getD r [] ++ [b]))
      fun x y => y = b ∧ x = r := by
  split_ifs with hb
  · exact Adds.of_mem fun x y h => h.1 ▸ h.2 ▸ List.contains_iff_mem.1 hb
  · have hb' : b ∉ df.getD r [] := fun h => hb (List.contains_iff_mem.2 h)
    refine ⟨Array.size_setIfInBounds, fun x hx => ?_⟩
    rw [getD_setIfInBounds]
    by_cases hxr : x = r
    · subst hxr
      rw [if_pos ⟨rfl, hx⟩]
      exact ⟨fun h => h.append (List.nodup_singleton b) (by simpa using hb'), fun y => by simp⟩
    · simp [hxr]

lemma dfWalk_adds (idom : Array Int) (b : Nat) (bdom : Int) (f : Nat) (runner : Int)
    (df : Array (List Nat)) :
    Adds df (dfWalk idom b bdom f runner df) fun x y => y = b ∧ x ∈ walkL idom bdom f runner := by
  induction f generalizing runner df with
  | zero => exact Adds.of_false (by simp [walkL])
  | succ f ih =>
    unfold dfWalk walkL
    split_ifs
    · exact Adds.of_false (by simp)
    · exact ((push_adds df _ b).trans (ih _ _)).congr fun x y => by rw [List.mem_cons, and_or_left]

lemma walkL_neg (idom : Array Int) (bdom : Int) (f : Nat) (r : Int) (h : r < 0) :
    walkL idom bdom f r = [] := by
  cases f with
  | zero => rfl
  | succ f => unfold walkL; simp [h]

/-- On the true immediate-dominator array, the walk from `r` towards a stop value `bdom` that is
either no node or a dominator of `r` visits the dominators of `r` strictly below `bdom`. -/
lemma mem_walkL (g : G) (hwf : WF g) (root : Nat) (hr : root < g.size) (A : Array Int)
    (hA : ∀ v < g.size, A.getD v (-1) = idomEntry g root v) (x : Nat) (bdom : Int) :
    ∀ (f r : Nat), domCount g root r ≤ f → Path g root r → (∀ d : Nat, bdom = d → Dom g root d r) →
      (x ∈ walkL A bdom f (r : Int) ↔ Dom g root x r ∧ ∀ d : Nat, bdom = d → ¬ Dom g root x d) := by
  intro f
  induction f with
  | zero =>
    intro r hd hp _
    have := domCount_pos g hwf root r hr hp
    omega
  | succ f ih =>
    intro r hd hp hb
    unfold walkL
    by_cases hrb : (r : Int) = bdom
    · simp only [hrb, beq_self_eq_true, Bool.true_or, if_true, List.not_mem_nil, false_iff, not_and]
      exact fun h h' => h' r hrb.symm h
    · have h1 : ((r : Int) == bdom || decide ((r : Int) < 0)) = false := by
        simp only [Bool.or_eq_false_iff, beq_eq_false_iff_ne, decide_eq_false_iff_not]
        exact ⟨hrb, by omega⟩
      simp only [h1, Bool.false_eq_true, if_false, Int.toNat_natCast, List.mem_cons]
      rw [hA r (path_lt g hwf root r hr hp)]
      have hbr : ∀ d : Nat, bdom = d → d ≠ r := fun d e e' => hrb (e' ▸ e.symm)
      by_cases hrr : r = root
      · subst hrr
        rw [idomEntry_unreach g hwf r r hr (Or.inl rfl), walkL_neg _ _ _ _ (by omega)]
        simp only [List.not_mem_nil, or_false]
        constructor
        · rintro rfl
          exact ⟨Dom.refl hp, fun d e _ => hbr d e (hb d e).eq_root⟩
        · exact fun h => h.1.eq_root
      · obtain ⟨e1, e2, e3, e4⟩ := tid_spec g hwf root r hr hrr hp
        rw [e1, ih _ (by have := domCount_lt g hwf root hr e3 e2; omega) e3.2.1
          (fun d e => e4 d (hbr d e) (hb d e)), dom_tid_iff g hwf root r x hr hrr hp]
        constructor
        · rintro (rfl | ⟨h2, h3⟩)
          · exact ⟨Or.inl rfl, fun d e h => hbr d e (h.antisymm (hb d e)).symm⟩
          · exact ⟨Or.inr h2, h3⟩
        · rintro ⟨h2 | h2, h3⟩
          · exact Or.inl h2
          · exact Or.inr ⟨h2, h3⟩

/-- body of the loop over predecessors -/
def dfInner (idom : Array Int) (n root b : Nat) (bdom : Int) (df : Array (List Nat)) (p : Nat) :
    Array (List Nat) :=
  if idom.getD p (-1) == -1 && p != root then df else dfWalk idom b bdom (n + 2) (p : Int) df

/-- body of the loop over nodes -/
def dfOuter (g : G) (root : Nat) (idom : Array Int) (df : Array (List Nat)) (b : Nat) :
    Array (List Nat) :=
  if ((transpose g).getD b []).length < 2 then df
  else if idom.getD b (-1) == -1 && b != root then df
  else ((transpose g).getD b []).foldl (dfInner idom g.size root b (idom.getD b (-1))) df

lemma domFrontierCHK_eq (g : G) (root : Nat) (idomL : List Int) :
    domFrontierCHK g root idomL =
      ((List.range g.size).foldl (dfOuter g root idomL.toArray) (Array.replicate g.size [])).toList :=
  rfl

/-- node `p` is not skipped -/
def okP (idom : Array Int) (root p : Nat) : Prop := ¬ (idom.getD p (-1) = -1 ∧ p ≠ root)

lemma dfInner_adds (idom : Array Int) (n root b : Nat) (bdom : Int) (df : Array (List Nat))
    (p : Nat) : Adds df (dfInner idom n root b bdom df p) fun x y =>
      y = b ∧ okP idom root p ∧ x ∈ walkL idom bdom (n + 2) (p : Int) := by
  unfold dfInner
  have hok : ¬ (idom.getD p (-1) == -1 && p != root) = true ↔ okP idom root p := by simp [okP]
  split_ifs with h
  · exact Adds.of_false fun x y hc => hok.2 hc.2.1 h
  · exact (dfWalk_adds ..).congr fun x y => by rw [and_iff_right (hok.1 h)]

/-- `x` receives `b` in the frontier loop -/
def dfR (g : G) (root : Nat) (idom : Array Int) (x b : Nat) : Prop :=
  2 ≤ ((transpose g).getD b []).length ∧ okP idom root b ∧
    ∃ p ∈ (transpose g).getD b [], okP idom root p ∧
      x ∈ walkL idom (idom.getD b (-1)) (g.size + 2) (p : Int)

lemma dfOuter_adds (g : G) (root : Nat) (idom : Array Int) (df : Array (List Nat)) (b : Nat) :
    Adds df (dfOuter g root idom df b) fun x y => y = b ∧ dfR g root idom x b := by
  unfold dfOuter dfR
  have hok : ¬ (idom.getD b (-1) == -1 && b != root) = true ↔ okP idom root b := by simp [okP]
  split_ifs with h1 h2
  · exact Adds.of_false fun x y hc => by omega
  · exact Adds.of_false fun x y hc => hok.2 hc.2.2.1 h2
  · exact (Adds.foldl (dfInner_adds idom g.size root b _) _ df).congr fun x y => by
      rw [and_iff_right (not_lt.1 h1), and_iff_right (hok.1 h2)]
      constructor
      · rintro ⟨p, hp, rfl, h⟩
        exact ⟨rfl, p, hp, h⟩
      · rintro ⟨rfl, p, hp, h⟩
        exact ⟨p, hp, rfl, h⟩

lemma domFrontierCHK_getD (g : G) (root : Nat) (idomL : List Int) (x : Nat) (hx : x < g.size) :
    ((domFrontierCHK g root idomL).getD x []).Nodup ∧
      ∀ y, y ∈ (domFrontierCHK g root idomL).getD x [] ↔
        (y < g.size ∧ dfR g root idomL.toArray x y) := by
  obtain ⟨-, h⟩ := Adds.foldl (dfOuter_adds g root idomL.toArray) (List.range g.size)
    (Array.replicate g.size [])
  obtain ⟨h3, h4⟩ := h x (by simpa using hx)
  have he : (domFrontierCHK g root idomL).getD x [] =
      ((List.range g.size).foldl (dfOuter g root idomL.toArray) (Array.replicate g.size [])).getD x [] := by
    rw [domFrontierCHK_eq]
    simp [Array.getD_eq_getD_getElem?, List.getD_eq_getElem?_getD]
  rw [he]
  refine ⟨h3 (by rw [getD_replicate]; exact List.nodup_nil), fun y => ?_⟩
  rw [h4, getD_replicate]
  simp

lemma idomSpec_toArray_getD (g : G) (root v : Nat) (hv : v < g.size) :
    (idomSpec g root).toArray.getD v (-1) = idomEntry g root v := by
  rw [← idomSpec_getD g root v hv]
  simp [Array.getD_eq_getD_getElem?, List.getD_eq_getElem?_getD]

lemma okP_idomSpec (g : G) (hwf : WF g) (root p : Nat) (hr : root < g.size) (hp : p < g.size) :
    okP (idomSpec g root).toArray root p ↔ Path g root p := by
  unfold okP
  rw [idomSpec_toArray_getD g root p hp, ← idomSpec_getD g root p hp,
    idomSpec_neg1_iff g hwf root p hr hp]
  constructor
  · intro h
    by_contra hc
    exact h ⟨Or.inr hc, fun e => hc (e ▸ Relation.ReflTransGen.refl)⟩
  · rintro h ⟨h1 | h1, h2⟩
    · exact h2 h1
    · exact h1 h

lemma mem_walkL_idomSpec (g : G) (hwf : WF g) (root x y p : Nat) (hr : root < g.size)
    (hy : Path g root y) (hp : Path g root p) (he : Edge g p y) :
    x ∈ walkL (idomSpec g root).toArray ((idomSpec g root).toArray.getD y (-1)) (g.size + 2) (p : Int) ↔
      (Dom g root x p ∧ ¬ (x ≠ y ∧ Dom g root x y)) := by
  have hA := idomSpec_toArray_getD g root
  have hyn := path_lt g hwf root y hr hy
  have hdp : domCount g root p ≤ g.size + 2 := by have := domCount_le g root p; omega
  rw [hA y hyn]
  by_cases hyr : y = root
  · subst hyr
    rw [idomEntry_unreach g hwf y y hr (Or.inl rfl),
      mem_walkL g hwf y hr _ hA x _ _ p hdp hp (fun d e => by omega)]
    exact and_congr_right fun _ => ⟨fun _ h2 => h2.1 h2.2.eq_root, fun _ d e => by omega⟩
  · obtain ⟨e1, e2, e3, e4⟩ := tid_spec g hwf root y hr hyr hy
    have hcast : ∀ d : Nat, (tid g root y : Int) = d → tid g root y = d := fun d e => by omega
    rw [e1, mem_walkL g hwf root hr _ hA x _ _ p hdp hp
      (fun d e => hcast d e ▸ e3.pred e2 hp he)]
    have : (x ≠ y ∧ Dom g root x y) ↔ Dom g root x (tid g root y) := by
      constructor
      · rintro ⟨h1, h2⟩; exact e4 x h1 h2
      · intro h
        refine ⟨?_, h.trans e3⟩
        rintro rfl
        exact e2 (e3.antisymm h)
    rw [this]
    exact and_congr_right fun _ => ⟨fun h => h _ rfl, fun h d e => hcast d e ▸ h⟩

lemma indeg_ge_two (g : G) (hwf : WF g) (root x y p : Nat) (hr : root < g.size) (hyr : y ≠ root)
    (hy : Path g root y) (hp : Path g root p) (he : Edge g p y) (hx : Dom g root x p)
    (hns : ¬ (x ≠ y ∧ Dom g root x y)) : 2 ≤ ((transpose g).getD y []).length := by
  have hyn := path_lt g hwf root y hr hy
  by_contra hlt
  have hall : ∀ u, Edge g u y → u = p := by
    intro u hu
    have h1 := (mem_transpose g u y hyn).2 hu
    have h2 := (mem_transpose g p y hyn).2 he
    obtain ⟨a, ha⟩ := List.length_eq_one_iff.1
      (show ((transpose g).getD y []).length = 1 by have := List.length_pos_of_mem h2; omega)
    rw [ha, List.mem_singleton] at h1 h2
    rw [h1, h2]
  have hpy : Dom g root p y := Dom.of_preds hy hyr (fun u hu hue => by
    rw [hall u hue]; exact Dom.refl hp)
  have hxy : Dom g root x y := hx.trans hpy
  have hxe : x = y := by
    by_contra hne
    exact hns ⟨hne, hxy⟩
  subst hxe
  have hpe : p = x := hpy.antisymm hx
  subst hpe
  have : ∀ v, Path g root v → v ≠ p := by
    intro v hv
    induction hv with
    | refl => exact fun e => hyr e.symm
    | tail _ hbc ih =>
      intro e
      subst e
      exact ih (hall _ hbc)
  exact this p hy rfl

end CHK
open CHK

/-- The Go dominance-frontier routine, run on the true immediate-dominator array
`idomSpec g root`, lists `y` in the frontier of `x` exactly when the definitional frontier
`dfSpec` does, except that the root is omitted when it has fewer than two incoming edges
(counted with multiplicity, from all nodes). -/
theorem domFrontierCHK_spec (g : G) (hwf : WF g) (root x y : Nat) (hr : root < g.size)
    (hx : x < g.size) :
    y ∈ (domFrontierCHK g root (idomSpec g root)).getD x [] ↔
      (y ∈ (dfSpec g root).getD x [] ∧ (y = root → 2 ≤ rootInDeg g root)) := by
  rw [(domFrontierCHK_getD g root (idomSpec g root) x hx).2 y, dfSpec_spec g hwf root x y hr hx]
  simp only [sdom_iff, dom_iff_Dom g hwf root _ _ hr]
  constructor
  · rintro ⟨hy, h2, hoky, p, hp, hokp, hw⟩
    have hpe := (mem_transpose g p y hy).1 hp
    have hpy := (okP_idomSpec g hwf root y hr hy).1 hoky
    have hpp := (okP_idomSpec g hwf root p hr hpe.1).1 hokp
    have := (mem_walkL_idomSpec g hwf root x y p hr hpy hpp hpe).1 hw
    refine ⟨⟨this.1.2.1, hpy, ⟨p, hpp, hpe, this.1⟩, this.2⟩, ?_⟩
    rintro rfl
    rw [← transpose_root_length g y hr]; exact h2
  · rintro ⟨⟨_, hpy, ⟨p, hpp, hpe, hd⟩, hns⟩, hroot⟩
    have hy := path_lt g hwf root y hr hpy
    refine ⟨hy, ?_, (okP_idomSpec g hwf root y hr hy).2 hpy, p, (mem_transpose g p y hy).2 hpe,
      (okP_idomSpec g hwf root p hr hpe.1).2 hpp, (mem_walkL_idomSpec g hwf root x y p hr hpy hpp hpe).2 ⟨hd, hns⟩⟩
    by_cases hyr : y = root
    · subst hyr
      rw [transpose_root_length g y hr]; exact hroot rfl
    · exact indeg_ge_two g hwf root x y p hr hyr hpy hpp hpe hd hns

/-- A non-root node occurring in a definitional dominance frontier has at least two
incoming edges (with multiplicity), so the Go routine's "fewer than two predecessors" shortcut
only ever matters for the root. -/
theorem dfSpec_indeg (g : G) (hwf : WF g) (root x y : Nat) (hr : root < g.size) (hx : x < g.size)
    (hyr : y ≠ root) (h : y ∈ (dfSpec g root).getD x []) :
    2 ≤ ((transpose g).getD y []).length := by
  rw [dfSpec_spec g hwf root x y hr hx] at h
  simp only [sdom_iff, dom_iff_Dom g hwf root _ _ hr] at h
  obtain ⟨_, hpy, ⟨p, hpp, hpe, hd⟩, hns⟩ := h
  exact indeg_ge_two g hwf root x y p hr hyr hpy hpp hpe hd hns

/-- Every frontier list produced by the Go routine is duplicate-free (for any `idom` input). -/
theorem domFrontierCHK_nodup (g : G) (root : Nat) (idomL : List Int) (x : Nat) :
    ((domFrontierCHK g root idomL).getD x []).Nodup := by
  by_cases hx : x < g.size
  · exact (domFrontierCHK_getD g root idomL x hx).1
  · have hl : (domFrontierCHK g root idomL).length = g.size := by
      rw [domFrontierCHK_eq]
      simp [(Adds.foldl (dfOuter_adds g root idomL.toArray) (List.range g.size)
        (Array.replicate g.size [])).1]
    have : (domFrontierCHK g root idomL)[x]? = none := List.getElem?_eq_none (by omega)
    simp [List.getD_eq_getElem?_getD, this]

namespace CHK

example : WF exD := by decide
example : domFrontierCHK exD 0 (idomSpec exD 0) = [[], [3], [3], [1]] := by
  decide +kernel
example : (3 ∈ (domFrontierCHK exD 0 (idomSpec exD 0)).getD 2 [] ↔
    (3 ∈ (dfSpec exD 0).getD 2 [] ∧ ((3 : Nat) = 0 → 2 ≤ rootInDeg exD 0))) :=
  domFrontierCHK_spec exD (by decide) 0 2 3 (by decide) (by decide)

/-- between the states `s` and `t` of the traversal, every node that exits satisfies `R` or exits
before a node of which it is a successor -/
def ExitsBefore (g : G) (s t : DState) (R : Nat → Prop) : Prop :=
  ∃ l, t.events = l.reverse ++ s.events ∧
    ∀ x ∈ ext l, R x ∨ ∃ u, x ∈ out g u ∧ List.Sublist [x, u] (ext l)

lemma visit_parent (g : G) (f : Nat) :
    (∀ v s, ExitsBefore g s (visit g f v s) (· = v)) ∧
    ∀ ws s, ExitsBefore g s (visitList g f ws s) (· ∈ ws) := by
  refine visit_ind g (P := fun _ v s t => ExitsBefore g s t (· = v))
    (Q := fun _ ws s t => ExitsBefore g s t (· ∈ ws)) ?_ ?_ ?_ ?_ ?_ f
  · exact fun _ _ => ⟨[], rfl, by simp⟩
  · rintro f v s ⟨inner, h1, q1⟩
    refine ⟨(true, v) :: (inner ++ [(false, v)]), ?_, fun x hx => ?_⟩
    · rw [visit_succ_events, h1, enter_events]; simp
    · simp only [ext_cons_true, ext_append, ext_cons_false, ext_nil, List.mem_append,
        List.mem_singleton] at hx ⊢
      rcases hx with hx | hx
      · rcases q1 x hx with h | ⟨u, hu, hsub⟩
        -- a successor of `v` exits inside the call of `v`, hence before `v`
        · exact Or.inr ⟨v, h, (List.singleton_sublist.2 hx).append (List.Sublist.refl [v])⟩
        · exact Or.inr ⟨u, hu, hsub.trans (List.sublist_append_left _ _)⟩
      · exact Or.inl hx
  · exact fun _ _ => ⟨[], rfl, by simp⟩
  · rintro f w ws s - ⟨l, h, q⟩
    exact ⟨l, h, fun x hx => (q x hx).imp_left (List.mem_cons_of_mem _)⟩
  · rintro f w ws s - ⟨l1, h1, q1⟩ ⟨l2, h2, q2⟩
    refine ⟨l1 ++ l2, by rw [h2, h1]; simp, fun x hx => ?_⟩
    rw [ext_append] at hx ⊢
    rcases List.mem_append.1 hx with hx | hx
    · rcases q1 x hx with rfl | ⟨u, hu, hsub⟩
      · exact Or.inl List.mem_cons_self
      · exact Or.inr ⟨u, hu, hsub.trans (List.sublist_append_left _ _)⟩
    · rcases q2 x hx with h | ⟨u, hu, hsub⟩
      · exact Or.inl (List.mem_cons_of_mem _ h)
      · exact Or.inr ⟨u, hu, hsub.trans (List.sublist_append_right _ _)⟩

lemma mem_postOrder_lt (g : G) (hwf : WF g) (root : Nat) (hr : root < g.size) (v : Nat)
    (h : v ∈ postOrder g root) : v < g.size :=
  path_lt g hwf root v hr ((mem_postOrder_iff g root hwf hr v).1 h)

lemma postOrder_parent (g : G) (hwf : WF g) (root : Nat) (hr : root < g.size) (x : Nat)
    (hx : x ∈ postOrder g root) (hxr : x ≠ root) :
    ∃ u, Edge g u x ∧ List.Sublist [x, u] (postOrder g root) := by
  obtain ⟨l, e, q⟩ := (visit_parent g (g.size + 1)).1 root (init g)
  have : euler g root = l := by
    rw [euler_eq, final, e]; simp [init]
  rw [postOrder_eq, this] at hx
  obtain ⟨u, hu, hsub⟩ := (q x hx).resolve_left hxr
  rw [← this, ← postOrder_eq] at hsub
  exact ⟨u, ⟨mem_postOrder_lt g hwf root hr u (hsub.subset (by simp)), hu⟩, hsub⟩

lemma idxOf_lt_of_sublist (l : List Nat) (hn : l.Nodup) (x u : Nat) (h : List.Sublist [x, u] l) :
    l.idxOf x < l.idxOf u := by
  obtain ⟨r1, r2, rfl, hx, hu⟩ := List.cons_sublist_iff.1 h
  have hu' : u ∉ r1 := fun h' =>
    (List.nodup_append.1 hn).2.2 u h' u (List.singleton_sublist.1 hu) rfl
  rw [List.idxOf_append_of_mem hx, List.idxOf_append_of_notMem hu']
  exact (List.idxOf_lt_length_of_mem hx).trans_le (Nat.le_add_right _ _)

lemma nodup_length_le (l : List Nat) (n : Nat) (hn : l.Nodup) (hlt : ∀ v ∈ l, v < n) :
    l.length ≤ n :=
  (List.subperm_of_subset hn fun v hv => List.mem_range.2 (hlt v hv)).length_le.trans_eq
    List.length_range

lemma poNum_fold (l : List Nat) : ∀ (s : Nat) (a : Array Nat), l.Nodup → (∀ v ∈ l, v < a.size) →
    ∀ x, ((l.zip (List.range' s l.length)).foldl (fun a (p : Nat × Nat) => a.setIfInBounds p.1 p.2) a).getD x 0 =
      if x ∈ l then s + l.idxOf x else a.getD x 0 := by
  induction l with
  | nil => intro s a _ _ x; simp
  | cons b l ih =>
    intro s a hn hlt x
    rw [List.nodup_cons] at hn
    simp only [List.length_cons, List.range'_succ, List.zip_cons_cons, List.foldl_cons]
    rw [ih (s + 1) _ hn.2 (fun v hv => by
      rw [Array.size_setIfInBounds]; exact hlt v (by simp [hv]))]
    by_cases hx : x ∈ l
    · have hbx : b ≠ x := fun e => hn.1 (e ▸ hx)
      rw [if_pos hx, if_pos (by simp [hx]), List.idxOf_cons_ne _ hbx]
      omega
    · rw [if_neg hx, getD_setIfInBounds]
      by_cases hxb : x = b
      · subst hxb
        rw [if_pos ⟨rfl, hlt x (by simp)⟩, if_pos (by simp), List.idxOf_cons_self]
        omega
      · rw [if_neg (fun h => hxb h.1), if_neg (by simp [hx, hxb])]

/-- the post-order number array of `idomCHK` -/
def poNumArr (g : G) (root : Nat) : Array Nat :=
  ((postOrder g root).zip (List.range (postOrder g root).length)).foldl
    (fun a (p : Nat × Nat) => a.setIfInBounds p.1 p.2) (Array.replicate g.size 0)

/-- post-order number read from the array -/
def pnum (P : Array Nat) (x : Nat) : Nat := P.getD x 0

lemma pnum_po (g : G) (hwf : WF g) (root : Nat) (hr : root < g.size) (x : Nat)
    (hx : x ∈ postOrder g root) : pnum (poNumArr g root) x = (postOrder g root).idxOf x := by
  unfold pnum poNumArr
  rw [List.range_eq_range', poNum_fold _ 0 _ (postOrder_nodup g root hwf hr)
    (fun v hv => by simpa using mem_postOrder_lt g hwf root hr v hv), if_pos hx]
  omega

/-- node `x` has been given a parent -/
def proc (A : Array Int) (x : Nat) : Prop := A.getD x (-1) ≠ -1

/-- the entry of `x` as a node; meant for processed `x` -/
def par (A : Array Int) (x : Nat) : Nat := (A.getD x (-1)).toNat

/-- `c` is on the parent chain of `x` -/
def Up (A : Array Int) : Nat → Nat → Prop := Relation.ReflTransGen (fun u v => par A u = v)

/-- properties of the numbering and of a chosen "forward predecessor" function -/
structure PO (g : G) (root : Nat) (P : Array Nat) (π : Nat → Nat) : Prop where
  inj : ∀ x y, Path g root x → Path g root y → pnum P x = pnum P y → x = y
  lt_root : ∀ x, Path g root x → x ≠ root → pnum P x < pnum P root
  root_lt : pnum P root < g.size
  par_edge : ∀ x, Path g root x → x ≠ root → Edge g (π x) x
  par_path : ∀ x, Path g root x → x ≠ root → Path g root (π x)
  par_lt : ∀ x, Path g root x → x ≠ root → pnum P x < pnum P (π x)

/-- tree invariant of the `idom` array -/
structure TI (g : G) (root : Nat) (P : Array Nat) (A : Array Int) : Prop where
  hsize : A.size = g.size
  hroot : A.getD root (-1) = (root : Int)
  hpath : ∀ x, proc A x → Path g root x
  hnat : ∀ x, proc A x → A.getD x (-1) = (par A x : Int)
  hpp : ∀ x, proc A x → proc A (par A x)
  hplt : ∀ x, proc A x → x ≠ root → pnum P x < pnum P (par A x)

lemma proc_lt {A : Array Int} {x : Nat} (h : proc A x) : x < A.size :=
  not_le.1 fun hc => h (getD_of_size_le A x (-1) hc)

section
variable {g : G} {root : Nat} {P : Array Nat} {π : Nat → Nat} {A : Array Int}

lemma TI.par_root (hT : TI g root P A) : par A root = root := by
  simp [par, hT.hroot]

lemma TI.proc_root (hT : TI g root P A) : proc A root := by
  unfold proc; rw [hT.hroot]; omega

lemma PO.le_root (hP : PO g root P π) {x : Nat} (hx : Path g root x) : pnum P x ≤ pnum P root := by
  by_cases h : x = root
  · rw [h]
  · exact (hP.lt_root x hx h).le

/-- the distance to the root in post-order numbers; two of them bound the fuel of `intersect` -/
lemma PO.fuel (hP : PO g root P π) (b1 b2 : Nat) :
    (pnum P root - pnum P b1) + (pnum P root - pnum P b2) < 2 * g.size + 2 := by
  have := hP.root_lt
  omega

lemma TI.dist_par (hT : TI g root P A) (hP : PO g root P π) {x : Nat} (hx : proc A x)
    (hxr : x ≠ root) : pnum P root - pnum P (par A x) < pnum P root - pnum P x := by
  have := hT.hplt x hx hxr
  have := hP.lt_root x (hT.hpath x hx) hxr
  omega

lemma TI.up_proc (hT : TI g root P A) {x c : Nat} (hx : proc A x) (h : Up A x c) : proc A c := by
  induction h with
  | refl => exact hx
  | tail _ hbc ih => rw [← hbc]; exact hT.hpp _ ih

lemma TI.up_lt (hT : TI g root P A) {x c : Nat} (hx : proc A x) (h : Up A x c) :
    x = c ∨ pnum P x < pnum P c := by
  induction h with
  | refl => exact Or.inl rfl
  | @tail c' c hxc' hbc ih =>
    by_cases hr : c' = root
    · rw [← hbc, hr, hT.par_root, ← hr]; exact ih
    · have := hT.hplt c' (hT.up_proc hx hxc') hr
      rw [hbc] at this
      exact Or.inr (ih.elim (· ▸ this) (lt_trans · this))

lemma TI.up_le (hT : TI g root P A) {x c : Nat} (hx : proc A x) (h : Up A x c) :
    pnum P x ≤ pnum P c :=
  (hT.up_lt hx h).elim (· ▸ le_rfl) le_of_lt

lemma TI.up_antisymm (hT : TI g root P A) {x c : Nat} (hx : proc A x) (h : Up A x c)
    (h' : Up A c x) : x = c :=
  (hT.up_lt hx h).elim id fun h1 => absurd (hT.up_le (hT.up_proc hx h) h') (not_le.2 h1)

lemma up_head {x c : Nat} (h : Up A x c) : x = c ∨ Up A (par A x) c := by
  rcases Relation.ReflTransGen.cases_head h with h | ⟨y, hy, h⟩
  · exact Or.inl h
  · rw [← hy] at h; exact Or.inr h

lemma up_step (x : Nat) : Up A x (par A x) := Relation.ReflTransGen.single rfl

lemma up_total {x c d : Nat} (h1 : Up A x c) (h2 : Up A x d) : Up A c d ∨ Up A d c :=
  Relation.ReflTransGen.total_of_right_unique (fun _ _ _ h h' => h.symm.trans h') h1 h2

lemma TI.up_root_eq (hT : TI g root P A) {c : Nat} (h : Up A root c) : c = root := by
  induction h with
  | refl => rfl
  | tail _ hbc ih => rw [← hbc, ih, hT.par_root]

lemma TI.up_root' (hT : TI g root P A) (hP : PO g root P π) {x : Nat} (hx : proc A x) :
    Up A x root := by
  induction hd : pnum P root - pnum P x using Nat.strong_induction_on generalizing x with
  | _ d ih =>
    by_cases hr : x = root
    · rw [hr]; exact Relation.ReflTransGen.refl
    · exact Relation.ReflTransGen.head rfl
        (ih _ (hd ▸ hT.dist_par hP hx hr) (hT.hpp x hx) rfl)

/-- moving the finger with the smaller number up keeps the nearest common ancestor: the other
finger is not below it -/
lemma nca_step (hT : TI g root P A) {b1 b2 m : Nat} (h2 : proc A b2)
    (hlt : pnum P b1 < pnum P b2)
    (h : Up A (par A b1) m ∧ Up A b2 m ∧ ∀ c, Up A (par A b1) c → Up A b2 c → Up A m c) :
    Up A b1 m ∧ Up A b2 m ∧ ∀ c, Up A b1 c → Up A b2 c → Up A m c :=
  ⟨Relation.ReflTransGen.head rfl h.1, h.2.1, fun c hc1 hc2 => (up_head hc1).elim
    (fun e => absurd (hT.up_le h2 (e ▸ hc2)) (not_le.2 hlt)) fun hc => h.2.2 c hc hc2⟩

lemma intersect_spec (hT : TI g root P A) (hP : PO g root P π) :
    ∀ (f b1 b2 : Nat), proc A b1 → proc A b2 →
      (pnum P root - pnum P b1) + (pnum P root - pnum P b2) < f →
      Up A b1 (intersect A P f b1 b2) ∧ Up A b2 (intersect A P f b1 b2) ∧
        ∀ c, Up A b1 c → Up A b2 c → Up A (intersect A P f b1 b2) c := by
  intro f
  induction f with
  | zero => intro b1 b2 _ _ h; exact absurd h (Nat.not_lt_zero _)
  | succ f ih =>
    intro b1 b2 h1 h2 hf
    have hpar : ∀ {b}, proc A b → (A.getD b 0).toNat = par A b := fun hb => by
      simp [par, Array.getD_eq_getD_getElem?, proc_lt hb]
    unfold intersect
    by_cases he : b1 = b2
    · subst he
      simp only [beq_self_eq_true, if_true]
      exact ⟨Relation.ReflTransGen.refl, Relation.ReflTransGen.refl, fun c hc _ => hc⟩
    · rw [if_neg (by simpa using he), hpar h1, hpar h2]
      have hp1 := hT.hpath b1 h1
      have hp2 := hT.hpath b2 h2
      rcases Nat.lt_or_gt_of_ne (fun e => he (hP.inj b1 b2 hp1 hp2 e)) with hlt | hlt
      · rw [if_pos (show P.getD b1 0 < P.getD b2 0 from hlt)]
        have hr1 : b1 ≠ root := fun e => absurd (hP.le_root hp2) (e ▸ not_le.2 hlt)
        exact nca_step hT h2 hlt (ih (par A b1) b2 (hT.hpp b1 h1) h2 (Nat.lt_of_lt_of_le
          (Nat.add_lt_add_right (hT.dist_par hP h1 hr1) _) (Nat.le_of_lt_succ hf)))
      · rw [if_neg (show ¬ P.getD b1 0 < P.getD b2 0 from not_lt.2 hlt.le)]
        have hr2 : b2 ≠ root := fun e => absurd (hP.le_root hp1) (e ▸ not_le.2 hlt)
        obtain ⟨i1, i2, i3⟩ := ih b1 (par A b2) h1 (hT.hpp b2 h2) (Nat.lt_of_lt_of_le
          (Nat.add_lt_add_left (hT.dist_par hP h2 hr2) _) (Nat.le_of_lt_succ hf))
        obtain ⟨j2, j1, j3⟩ := nca_step hT h1 hlt ⟨i2, i1, fun c hc2 hc1 => i3 c hc1 hc2⟩
        exact ⟨j1, j2, fun c hc1 hc2 => j3 c hc2 hc1⟩

/-- one step of the fold computing the new parent -/
def niStep (g : G) (P : Array Nat) (A : Array Int) (cur : Int) (p : Nat) : Int :=
  if A.getD p (-1) == -1 then cur
  else if cur == -1 then (p : Int)
  else ((intersect A P (2 * g.size + 2) p cur.toNat : Nat) : Int)

/-- the new parent of a node with predecessor list `ps` -/
def newIdom (g : G) (P : Array Nat) (A : Array Int) (ps : List Nat) : Int :=
  ps.foldl (niStep g P A) (-1)

/-- `v` is `-1` if no node in `S` is processed, and otherwise the node whose chain is the common
part of the chains of the processed nodes in `S` -/
def IsNca (A : Array Int) (S : Nat → Prop) (v : Int) : Prop :=
  (v = -1 ∧ ∀ p, S p → ¬ proc A p) ∨
    ∃ m : Nat, v = m ∧ proc A m ∧ ∀ c, Up A m c ↔ ∀ p, S p → proc A p → Up A p c

lemma niStep_nca (hT : TI g root P A) (hP : PO g root P π) {S : Nat → Prop} {cur : Int} (p : Nat)
    (h : IsNca A S cur) : IsNca A (fun q => S q ∨ q = p) (niStep g P A cur p) := by
  unfold niStep
  by_cases hp : proc A p
  · rw [if_neg (by simpa [proc] using hp)]
    rcases h with ⟨rfl, hn⟩ | ⟨m, rfl, hm, hc⟩
    · refine Or.inr ⟨p, rfl, hp, fun c => ⟨fun h q hq hqp => ?_, fun h => h p (Or.inr rfl) hp⟩⟩
      rcases hq with hq | rfl
      · exact absurd hqp (hn q hq)
      · exact h
    · rw [if_neg (by simp), Int.toNat_natCast]
      obtain ⟨j1, j2, j3⟩ := intersect_spec hT hP _ p m hp hm (hP.fuel p m)
      refine Or.inr ⟨_, rfl, hT.up_proc hp j1, fun c => ⟨fun h q hq hqp => ?_, fun h =>
        j3 c (h p (Or.inr rfl) hp) ((hc c).2 fun q hq => h q (Or.inl hq))⟩⟩
      rcases hq with hq | rfl
      · exact (hc c).1 (j2.trans h) q hq hqp
      · exact j1.trans h
  · rw [if_pos (by simpa [proc] using hp)]
    rcases h with ⟨rfl, hn⟩ | ⟨m, rfl, hm, hc⟩
    · refine Or.inl ⟨rfl, fun q hq => ?_⟩
      rcases hq with hq | rfl
      · exact hn q hq
      · exact hp
    · refine Or.inr ⟨m, rfl, hm, fun c => (hc c).trans ⟨fun h q hq hqp => ?_, fun h q hq =>
        h q (Or.inl hq)⟩⟩
      rcases hq with hq | rfl
      · exact h q hq hqp
      · exact absurd hqp hp

lemma foldl_niStep_nca (hT : TI g root P A) (hP : PO g root P π) (ps : List Nat) :
    ∀ {S : Nat → Prop} {cur : Int}, IsNca A S cur →
      IsNca A (fun q => S q ∨ q ∈ ps) (ps.foldl (niStep g P A) cur) := by
  induction ps with
  | nil => intro S cur h; simpa using h
  | cons p ps ih =>
    intro S cur h
    simpa [or_assoc] using ih (niStep_nca hT hP p h)

/-- the new parent `a` of `b`, given that the predecessor `π b` is processed: the chain of `a` is
the common part of the chains of the processed predecessors; so `a` is above `π b`, hence above `b`
in the numbering -/
lemma newIdom_up (hwf : WF g) (hr : root < g.size) (hT : TI g root P A) (hP : PO g root P π)
    {b : Nat} (hb : Path g root b) (hbr : b ≠ root) (hπ : proc A (π b)) :
    ∃ a : Nat, newIdom g P A ((transpose g).getD b []) = (a : Int) ∧ proc A a ∧
      (∀ c, Up A a c ↔ ∀ p, Edge g p b → proc A p → Up A p c) ∧
      Up A (π b) a ∧ pnum P b < pnum P a := by
  have h := foldl_niStep_nca hT hP ((transpose g).getD b []) (S := fun _ => False) (cur := -1)
    (Or.inl ⟨rfl, fun _ h => h.elim⟩)
  simp only [false_or, mem_transpose g _ b (path_lt g hwf root b hr hb)] at h
  have hπe := hP.par_edge b hb hbr
  rcases h with ⟨-, hn⟩ | ⟨a, ha, hpa, hspec⟩
  · exact absurd hπ (hn _ hπe)
  · have hπa : Up A (π b) a := (hspec a).1 Relation.ReflTransGen.refl _ hπe hπ
    exact ⟨a, ha, hpa, hspec, hπa, lt_of_lt_of_le (hP.par_lt b hb hbr) (hT.up_le hπ hπa)⟩

end

/-- the assignment `idom[b] = a` of a pass -/
def upd (A : Array Int) (b a : Nat) : Array Int := A.setIfInBounds b (a : Int)

lemma upd_getD (A : Array Int) (b a x : Nat) (hb : b < A.size) :
    (upd A b a).getD x (-1) = if x = b then (a : Int) else A.getD x (-1) :=
  getD_setIfInBounds_of_lt A x _ _ hb

lemma upd_proc (A : Array Int) (b a x : Nat) (hb : b < A.size) :
    proc (upd A b a) x ↔ (x = b ∨ proc A x) := by
  unfold proc
  rw [upd_getD A b a x hb]
  by_cases h : x = b
  · simp [h]
  · simp [h]

lemma upd_par (A : Array Int) (b a x : Nat) (hb : b < A.size) :
    par (upd A b a) x = if x = b then a else par A x := by
  unfold par
  rw [upd_getD A b a x hb]
  by_cases h : x = b <;> simp [h]

/-- `a`, the new parent of `b`: processed, with a larger number than `b`, on the chain that `b` had
if it had one; its chain is the common part of the chains of the processed predecessors of `b` -/
structure UpdH (g : G) (root : Nat) (P : Array Nat) (π : Nat → Nat) (A : Array Int) (b a : Nat) :
    Prop where
  hT : TI g root P A
  hP : PO g root P π
  hb : Path g root b
  hbn : b < g.size
  hbr : b ≠ root
  ha : proc A a
  hlt : pnum P b < pnum P a
  hM : proc A b → Up A b a
  hspec : ∀ c, Up A a c ↔ ∀ p, Edge g p b → proc A p → Up A p c
  hπa : Up A (π b) a

section
variable {g : G} {root : Nat} {P : Array Nat} {π : Nat → Nat} {A : Array Int} {b a : Nat}

lemma UpdH.bsz (h : UpdH g root P π A b a) : b < A.size := by rw [h.hT.hsize]; exact h.hbn

lemma UpdH.par_b (h : UpdH g root P π A b a) : par (upd A b a) b = a := by
  rw [upd_par A b a b h.bsz, if_pos rfl]

lemma UpdH.par_ne (h : UpdH g root P π A b a) {x : Nat} (hx : x ≠ b) :
    par (upd A b a) x = par A x := by
  rw [upd_par A b a x h.bsz, if_neg hx]

lemma UpdH.not_up_ab (h : UpdH g root P π A b a) : ¬ Up A a b := by
  intro hu
  have := h.hT.up_le h.ha hu
  have := h.hlt
  omega

lemma UpdH.ti (h : UpdH g root P π A b a) : TI g root P (upd A b a) := by
  have hb := h.bsz
  have hp : ∀ {x}, proc (upd A b a) x → x ≠ b → proc A x := fun hx hxb =>
    ((upd_proc A b a _ hb).1 hx).resolve_left hxb
  refine ⟨by rw [upd, Array.size_setIfInBounds]; exact h.hT.hsize, ?_, fun x hx => ?_,
    fun x hx => ?_, fun x hx => ?_, fun x hx hxr => ?_⟩
  · rw [upd_getD A b a root hb, if_neg (fun e => h.hbr e.symm)]; exact h.hT.hroot
  · by_cases hxb : x = b
    · exact hxb ▸ h.hb
    · exact h.hT.hpath x (hp hx hxb)
  · rw [upd_getD A b a x hb, upd_par A b a x hb]
    by_cases hxb : x = b
    · rw [if_pos hxb, if_pos hxb]
    · rw [if_neg hxb, if_neg hxb]; exact h.hT.hnat x (hp hx hxb)
  · rw [upd_par A b a x hb, upd_proc A b a _ hb]
    by_cases hxb : x = b
    · rw [if_pos hxb]; exact Or.inr h.ha
    · rw [if_neg hxb]; exact Or.inr (h.hT.hpp x (hp hx hxb))
  · rw [upd_par A b a x hb]
    by_cases hxb : x = b
    · rw [if_pos hxb, hxb]; exact h.hlt
    · rw [if_neg hxb]; exact h.hT.hplt x (hp hx hxb) hxr

/-- a chain is also a chain of a second relation that has its steps -/
lemma rtg_transfer {r r' : Nat → Nat → Prop} {x c : Nat} (h : Relation.ReflTransGen r x c)
    (H : ∀ u v, Relation.ReflTransGen r x u → Relation.ReflTransGen r' x u → r u v →
      Relation.ReflTransGen r v c → r' u v) : Relation.ReflTransGen r' x c := by
  induction h with
  | refl => exact Relation.ReflTransGen.refl
  | tail hxu huv ih =>
    have hxu' := ih fun u v h1 h2 h3 h4 => H u v h1 h2 h3 (h4.tail huv)
    exact hxu'.tail (H _ _ hxu hxu' huv Relation.ReflTransGen.refl)

lemma UpdH.up_iff_of_not_below (h : UpdH g root P π A b a) {y c : Nat} (hn : ¬ Up A y b) :
    Up (upd A b a) y c ↔ Up A y c :=
  ⟨fun hu => rtg_transfer hu fun u v _ hyu huv _ => by
      rwa [h.par_ne fun e => hn (e ▸ hyu)] at huv,
    fun hu => rtg_transfer hu fun u v hyu _ huv _ => by
      rwa [h.par_ne fun e => hn (e ▸ hyu)]⟩

lemma UpdH.up_b_iff (h : UpdH g root P π A b a) {c : Nat} :
    Up (upd A b a) b c ↔ (c = b ∨ Up A a c) := by
  constructor
  · intro hu
    rcases up_head hu with h1 | h1
    · exact Or.inl h1.symm
    · rw [h.par_b] at h1
      exact Or.inr ((h.up_iff_of_not_below h.not_up_ab).1 h1)
  · rintro (rfl | h1)
    · exact Relation.ReflTransGen.refl
    · exact Relation.ReflTransGen.head h.par_b ((h.up_iff_of_not_below h.not_up_ab).2 h1)

lemma UpdH.up_segment (h : UpdH g root P π A b a) {x c : Nat} (hu : Up A x c) (hx : proc A x)
    (hcb : Up A c b) : Up (upd A b a) x c :=
  rtg_transfer hu fun u v hxu _ huv hvc => by
    rw [h.par_ne, huv]
    -- a step out of `b` on the way to `b` would be a cycle
    rintro rfl
    have hpu := h.hT.up_proc hx hxu
    have hlt := h.hT.hplt u hpu h.hbr
    rw [huv, ← h.hT.up_antisymm hpu (huv ▸ up_step u) (hvc.trans hcb)] at hlt
    exact lt_irrefl _ hlt

lemma UpdH.up_old (h : UpdH g root P π A b a) {x c : Nat} (hu : Up (upd A b a) x c) :
    proc A x → Up A x c := by
  induction hu using Relation.ReflTransGen.head_induction_on with
  | refl => intro _; exact Relation.ReflTransGen.refl
  | @head y y' hyy' _ ih =>
    intro hy
    by_cases hyb : y = b
    · subst hyb
      rw [h.par_b] at hyy'
      subst hyy'
      exact (h.hM hy).trans (ih h.ha)
    · rw [h.par_ne hyb] at hyy'
      have hy' : proc A y' := by rw [← hyy']; exact h.hT.hpp y hy
      exact Relation.ReflTransGen.head hyy' (ih hy')

end

/-- chain of chosen forward predecessors -/
def PUp (root : Nat) (π : Nat → Nat) : Nat → Nat → Prop :=
  Relation.ReflTransGen (fun u v => u ≠ root ∧ π u = v)

lemma PO.pup {g : G} {root : Nat} {P : Array Nat} {π : Nat → Nat} (hP : PO g root P π)
    {u c : Nat} (h : PUp root π u c) (hu : Path g root u) :
    Path g root c ∧ pnum P u ≤ pnum P c := by
  induction h with
  | refl => exact ⟨hu, le_rfl⟩
  | tail _ hbc ih =>
    obtain ⟨h1, h2⟩ := ih
    rw [← hbc.2]
    exact ⟨hP.par_path _ h1 hbc.1, le_trans h2 (hP.par_lt _ h1 hbc.1).le⟩

/-- the loop invariant: pass number `k`, nodes with post-order number `≥ θ` already treated -/
structure Inv (g : G) (root : Nat) (P : Array Nat) (π : Nat → Nat) (k θ : Nat) (A : Array Int) :
    Prop where
  ti : TI g root P A
  -- the treated nodes, and from the second pass on all reachable nodes, are processed
  r1 : ∀ x, Path g root x → (θ ≤ pnum P x ∨ 2 ≤ k) → proc A x
  -- with a processed node its chosen predecessor is processed
  r2 : ∀ x, proc A x → x ≠ root → proc A (π x)
  -- chains stay inside the chains of chosen predecessors
  anc : ∀ x c, proc A x → Up A x c → PUp root π x c
  -- a recomputed parent would not be below the stored one
  ca : ∀ b, proc A b → b ≠ root → ∀ c, (∀ p, Edge g p b → proc A p → Up A p c) →
    pnum P (par A b) ≤ pnum P c
  -- the chain of a treated node is the node itself and then part of the chain of its chosen predecessor
  nest : ∀ u, Path g root u → θ ≤ pnum P u → u ≠ root → ∀ c, Up A u c → c = u ∨ Up A (π u) c
  -- every dominator of `x` is on the chain of `x`
  l1 : ∀ x d, proc A x → Dom g root d x → Up A x d
  -- a dominator of `x` above a chain element `c` of `x` dominates `c`
  l2 : ∀ x c d, proc A x → Up A x c → Up A c d → Dom g root d x → Dom g root d c
  -- a chain element of `x` is on every walk to `x` with fewer than `k` nodes (`k` nodes for treated `x`)
  u : ∀ x, proc A x → ∀ w, IsWalk g root x w →
    ((w.length ≤ k ∧ θ ≤ pnum P x) ∨ w.length + 1 ≤ k) → ∀ c, Up A x c → c ∈ w

section
variable {g : G} {root : Nat} {P : Array Nat} {π : Nat → Nat} {A : Array Int} {k θ : Nat}

lemma Inv.nestPath (hI : Inv g root P π k θ A) (hP : PO g root P π) {u c : Nat}
    (h : PUp root π u c) :
    Path g root u → θ ≤ pnum P u → ∀ e, Up A u e → pnum P e < pnum P c ∨ Up A c e := by
  induction h using Relation.ReflTransGen.head_induction_on with
  | refl => intro _ _ e he; exact Or.inr he
  | @head u u' huu' hu'c ih =>
    intro hu hθ e he
    obtain ⟨hur, hπ⟩ := huu'
    have hlt := hP.par_lt u hu hur
    have hpp := hP.par_path u hu hur
    rw [hπ] at hlt hpp
    rcases hI.nest u hu hθ hur e he with h1 | h1
    · left
      rw [h1]
      exact lt_of_lt_of_le hlt (hP.pup hu'c hpp).2
    · rw [hπ] at h1
      exact ih hpp (by omega) e h1

lemma Inv.step_updH (hwf : WF g) (hr : root < g.size) (hP : PO g root P π)
    (hI : Inv g root P π k θ A) {b : Nat} (hb : Path g root b) (hbr : b ≠ root)
    (hθ : pnum P b + 1 = θ) :
    ∃ a : Nat, newIdom g P A ((transpose g).getD b []) = (a : Int) ∧ UpdH g root P π A b a := by
  have hπp := hP.par_path b hb hbr
  have hπl := hP.par_lt b hb hbr
  obtain ⟨a, ha, hpa, hspec, hπa, hlt⟩ :=
    newIdom_up hwf hr hI.ti hP hb hbr (hI.r1 _ hπp (Or.inl (by omega)))
  refine ⟨a, ha, hI.ti, hP, hb, path_lt g hwf root b hr hb, hbr, hpa, hlt, ?_, hspec, hπa⟩
  intro hpb
  have h1 : pnum P (par A b) ≤ pnum P a := hI.ca b hpb hbr a ((hspec a).1 Relation.ReflTransGen.refl)
  have h2 : PUp root π b (par A b) := hI.anc b _ hpb (up_step b)
  have h3 : PUp root π (π b) (par A b) := by
    rcases Relation.ReflTransGen.cases_head h2 with h | ⟨y, hy, h⟩
    · exfalso
      have := hI.ti.hplt b hpb hbr
      rw [← h] at this; omega
    · rw [← hy.2] at h; exact h
  rcases hI.nestPath hP h3 hπp (by omega) a hπa with h4 | h4
  · omega
  · exact Relation.ReflTransGen.head rfl h4

lemma Inv.step_inv (hI : Inv g root P π k θ A) {b a : Nat} (hθ : pnum P b + 1 = θ)
    (hU : UpdH g root P π A b a) : Inv g root P π k (θ - 1) (upd A b a) := by
  have ⟨_, hP, hb, _, hbr, _, _, _, hspec, hπa⟩ := hU
  have hbs := hU.bsz
  have hπe := hP.par_edge b hb hbr
  have hπp := hP.par_path b hb hbr
  have hπl := hP.par_lt b hb hbr
  have hπproc : proc A (π b) := hI.r1 _ hπp (Or.inl (by omega))
  have hproc' : ∀ x, proc (upd A b a) x ↔ (x = b ∨ proc A x) := fun x => upd_proc A b a x hbs
  -- a node with the same number as `b` is `b`
  have hpn : ∀ x, Path g root x → x ≠ b → θ - 1 ≤ pnum P x → θ ≤ pnum P x := by
    intro x hx hxb hle
    have : pnum P x ≠ pnum P b := fun e => hxb (hP.inj x b hx hb e)
    omega
  -- nodes with larger number are not below `b`: their chains stay
  have hkeep : ∀ x c, proc A x → pnum P b < pnum P x → (Up (upd A b a) x c ↔ Up A x c) :=
    fun x c hx hlt => hU.up_iff_of_not_below fun hu => absurd (hI.ti.up_le hx hu) (not_le.2 hlt)
  -- dominators of `b` are above the new parent
  have hLb : ∀ d, Dom g root d b → d ≠ b → Up A a d := by
    intro d hd hdb
    rw [hspec]
    intro p hp hpp
    exact hI.l1 p d hpp (hd.pred hdb (hI.ti.hpath p hpp) hp)
  refine ⟨hU.ti, ?r1, ?r2, ?anc, ?ca, ?nest, ?l1, ?l2, ?u⟩
  case r1 =>
    intro x hx hc
    rw [hproc']
    by_cases hxb : x = b
    · exact Or.inl hxb
    · right
      rcases hc with hc | hc
      · exact hI.r1 x hx (Or.inl (hpn x hx hxb hc))
      · exact hI.r1 x hx (Or.inr hc)
  case r2 =>
    intro x hx hxr
    rw [hproc'] at hx ⊢
    rcases hx with rfl | hx
    · exact Or.inr hπproc
    · exact Or.inr (hI.r2 x hx hxr)
  case anc =>
    intro x c hx hu
    rcases (hproc' x).1 hx with rfl | hpx
    · rcases hU.up_b_iff.1 hu with rfl | h
      · exact Relation.ReflTransGen.refl
      · exact (Relation.ReflTransGen.single ⟨hbr, rfl⟩).trans
          ((hI.anc _ _ hπproc hπa).trans (hI.anc _ _ hU.ha h))
    · exact hI.anc x c hpx (hU.up_old hu hpx)
  case ca =>
    intro b' hb' hb'r c hprem
    have hprem' : ∀ p, Edge g p b' → proc A p → Up A p c := fun p hp hpp =>
      hU.up_old (hprem p hp ((hproc' p).2 (Or.inr hpp))) hpp
    by_cases hbb : b' = b
    · subst hbb
      rw [hU.par_b]
      exact hI.ti.up_le hU.ha ((hspec c).2 hprem')
    · rw [hU.par_ne hbb]
      exact hI.ca b' (((hproc' b').1 hb').resolve_left hbb) hb'r c hprem'
  case nest =>
    intro u hu hθu hur c huc
    by_cases hub : u = b
    · subst hub
      rcases hU.up_b_iff.1 huc with h | h
      · exact Or.inl h
      · exact Or.inr ((hkeep _ c hπproc hπl).2 (hπa.trans h))
    · have hθu' := hpn u hu hub hθu
      have hpu : proc A u := hI.r1 u hu (Or.inl hθu')
      have hltu : pnum P b < pnum P u := by omega
      rcases hI.nest u hu hθu' hur c ((hkeep u c hpu hltu).1 huc) with h | h
      · exact Or.inl h
      · exact Or.inr ((hkeep _ c (hI.r2 u hpu hur) (hltu.trans (hP.par_lt u hu hur))).2 h)
  case l1 =>
    intro x d hx hd
    by_cases hxb : x = b
    · subst hxb
      by_cases hdb : d = x
      · rw [hdb]; exact Relation.ReflTransGen.refl
      · exact hU.up_b_iff.2 (Or.inr (hLb d hd hdb))
    · have hpx : proc A x := ((hproc' x).1 hx).resolve_left hxb
      have hxd := hI.l1 x d hpx hd
      by_cases hxub : Up A x b
      · rcases up_total hxd hxub with h | h
        · exact hU.up_segment hxd hpx h
        · by_cases hdb : d = b
          · rw [hdb]; exact hU.up_segment hxub hpx Relation.ReflTransGen.refl
          · have hdb' : Dom g root d b := hI.l2 x b d hpx hxub h hd
            exact (hU.up_segment hxub hpx Relation.ReflTransGen.refl).trans
              (hU.up_b_iff.2 (Or.inr (hLb d hdb' hdb)))
      · exact (hU.up_iff_of_not_below hxub).2 hxd
  case l2 =>
    intro x c d hx hxc hcd hd
    rcases (hproc' x).1 hx with rfl | hpx
    · rcases hU.up_b_iff.1 hxc with rfl | h
      · exact hd
      · have h2 := hU.up_old hcd (hI.ti.up_proc hU.ha h)
        have hdx : d ≠ x := by rintro rfl; exact hU.not_up_ab (h.trans h2)
        exact hI.l2 _ c d hπproc (hπa.trans h) h2 (hd.pred hdx hπp hπe)
    · have h1 := hU.up_old hxc hpx
      exact hI.l2 x c d hpx h1 (hU.up_old hcd (hI.ti.up_proc hpx h1)) hd
  case u =>
    intro x hx w hw hc c hxc
    by_cases hxb : x = b
    · subst hxb
      rcases hU.up_b_iff.1 hxc with rfl | h
      · exact hw.last_mem
      · have hlen : w.length ≤ k := by
          rcases hc with hc | hc
          · exact hc.1
          · omega
        obtain ⟨w', p, e, hw', hpe⟩ := isWalk_snoc g hw (fun e => hbr e.symm)
        have hpp : Path g root p := path_of_walk g w' root p hw'
        have hlen' : w'.length + 1 = w.length := by rw [e]; simp
        have hpos := List.length_pos_of_mem hw'.head_mem
        have hprocp : proc A p := hI.r1 p hpp (Or.inr (by omega))
        have := hI.u p hprocp w' hw' (Or.inr (by omega)) c
          (((hspec a).1 Relation.ReflTransGen.refl p hpe hprocp).trans h)
        rw [e]; exact List.mem_append_left _ this
    · have hpx : proc A x := ((hproc' x).1 hx).resolve_left hxb
      apply hI.u x hpx w hw ?_ c (hU.up_old hxc hpx)
      rcases hc with hc | hc
      · exact Or.inl ⟨hc.1, hpn x (hI.ti.hpath x hpx) hxb hc.2⟩
      · exact Or.inr hc

end

section
variable {g : G} {root : Nat} {P : Array Nat} {π : Nat → Nat} {A : Array Int} {k θ : Nat}

/-- after enough passes every chain element is a true dominator -/
lemma Inv.correct (hwf : WF g) (hr : root < g.size) (hI : Inv g root P π k θ A)
    (hk : g.size + 1 ≤ k) : ∀ x c, proc A x → Up A x c → Dom g root c x := by
  intro x c hx hxc
  refine Dom.of_not_av (hI.ti.hpath x hx) (hI.ti.hpath c (hI.ti.up_proc hx hxc))
    fun _ hrc hav => ?_
  obtain ⟨w, hw, hcw⟩ := walk_of_av g c root x hav hrc
  obtain ⟨q, hq, hqn, hqs⟩ := walk_shorten g w root x hw
  have hlen : q.length ≤ g.size := nodup_length_le q g.size hqn (fun v hv =>
    path_lt g hwf root v hr (walk_mem_path g root Relation.ReflTransGen.refl hq v hv))
  exact hcw (hqs (hI.u x hx q hq (Or.inr (by omega)) c hxc))

lemma Inv.next (hP : PO g root P π) (hI : Inv g root P π k 0 A) :
    Inv g root P π (k + 1) (pnum P root) A := by
  refine ⟨hI.ti, ?_, hI.r2, hI.anc, hI.ca, ?_, hI.l1, hI.l2, ?_⟩
  · intro x hx _
    exact hI.r1 x hx (Or.inl (Nat.zero_le _))
  · intro u hu hθ hur
    have := hP.lt_root u hu hur
    omega
  · intro x hx w hw hc c hxc
    rcases hc with hc | hc
    · have hxr : x = root := by
        by_contra hne
        have := hP.lt_root x (hI.ti.hpath x hx) hne
        omega
      subst hxr
      rw [hI.ti.up_root_eq hxc]
      exact hw.head_mem
    · exact hI.u x hx w hw (Or.inl ⟨by omega, Nat.zero_le _⟩) c hxc

end

/-- body of the loop of `chkPass` -/
def chkStep (g : G) (preds : List (List Nat)) (root : Nat) (P : Array Nat)
    (acc : Array Int × Bool) (b : Nat) : Array Int × Bool :=
  if b == root then acc else
    if acc.1.getD b (-1) != newIdom g P acc.1 (preds.getD b []) then
      (acc.1.setIfInBounds b (newIdom g P acc.1 (preds.getD b [])), true)
    else acc

lemma chkPass_eq (g : G) (preds : List (List Nat)) (root : Nat) (rpo : List Nat) (P : Array Nat)
    (A : Array Int) :
    chkPass g preds root rpo P A = rpo.foldl (chkStep g preds root P) (A, false) := by
  rfl

lemma chkIter_succ (g : G) (preds : List (List Nat)) (root : Nat) (rpo : List Nat) (P : Array Nat)
    (f : Nat) (A : Array Int) :
    chkIter g preds root rpo P (f + 1) A =
      if (chkPass g preds root rpo P A).2 then
        chkIter g preds root rpo P f (chkPass g preds root rpo P A).1
      else (chkPass g preds root rpo P A).1 := by
  rfl

lemma chkStep_root (g : G) (preds : List (List Nat)) (root : Nat) (P : Array Nat)
    (acc : Array Int × Bool) : chkStep g preds root P acc root = acc := by
  simp [chkStep]

/-- a step that reports no change has changed nothing, and so for a run of steps -/
lemma chkStep_unchanged (g : G) (preds : List (List Nat)) (root : Nat) (P : Array Nat)
    (acc : Array Int × Bool) (b : Nat) (h : (chkStep g preds root P acc b).2 = false) :
    chkStep g preds root P acc b = acc := by
  unfold chkStep at h ⊢
  split_ifs at h ⊢
  · rfl
  · rfl

lemma foldl_chkStep_unchanged (g : G) (preds : List (List Nat)) (root : Nat) (P : Array Nat)
    (l : List Nat) : ∀ acc, (l.foldl (chkStep g preds root P) acc).2 = false →
      l.foldl (chkStep g preds root P) acc = acc := by
  induction l with
  | nil => exact fun _ _ => rfl
  | cons b l ih =>
    intro acc h
    rw [List.foldl_cons] at h ⊢
    have e := ih _ h
    rw [e] at h ⊢
    exact chkStep_unchanged g preds root P acc b h

lemma upd_same (A : Array Int) (b a : Nat) (h : A.getD b (-1) = (a : Int)) : upd A b a = A := by
  unfold upd
  apply Array.ext
  · exact Array.size_setIfInBounds
  · intro i h1 h2
    rw [Array.getElem_setIfInBounds h2]
    split_ifs with hbi
    · subst hbi
      rw [← h]
      simp [Array.getD_eq_getD_getElem?, h2]
    · rfl

section
variable {g : G} {root : Nat} {P : Array Nat} {π : Nat → Nat} {k : Nat}

lemma chkStep_inv (hwf : WF g) (hr : root < g.size) (hP : PO g root P π) {θ : Nat} {A : Array Int}
    (hI : Inv g root P π k θ A) (ch : Bool) {b : Nat} (hb : Path g root b) (hbr : b ≠ root)
    (hθ : pnum P b + 1 = θ) :
    Inv g root P π k (θ - 1) (chkStep g (transpose g) root P (A, ch) b).1 := by
  obtain ⟨a, ha, hU⟩ := hI.step_updH hwf hr hP hb hbr hθ
  have hinv := hI.step_inv hθ hU
  have hb1 : (b == root) = false := by simpa using hbr
  unfold chkStep
  simp only [hb1, Bool.false_eq_true, if_false, ha]
  by_cases hne : A.getD b (-1) = (a : Int)
  · rw [if_neg (by simpa using hne)]
    rwa [upd_same A b a hne] at hinv
  · rw [if_pos (by simpa using hne)]
    exact hinv

/-- a pass over the non-root nodes `l`, numbered by their position, taken from the last to the
first: the threshold of the invariant goes down from `l.length` to `0` -/
lemma foldl_chkStep_inv (hwf : WF g) (hr : root < g.size) (hP : PO g root P π) :
    ∀ (l : List Nat) (acc : Array Int × Bool), l.Nodup →
      (∀ x ∈ l, Path g root x ∧ x ≠ root ∧ pnum P x = l.idxOf x) →
      Inv g root P π k l.length acc.1 →
      Inv g root P π k 0 (l.reverse.foldl (chkStep g (transpose g) root P) acc).1 := by
  intro l
  induction l using List.reverseRecOn with
  | nil => exact fun _ _ _ hI => hI
  | append_singleton l b ih =>
    intro acc hn hl hI
    obtain ⟨hn', -, hdis⟩ := List.nodup_append.1 hn
    have hbl : b ∉ l := fun h => hdis b h b (by simp) rfl
    obtain ⟨hb, hbr, hnum⟩ := hl b (by simp)
    rw [List.idxOf_append_of_notMem hbl, List.idxOf_cons_self, Nat.add_zero] at hnum
    rw [List.length_append, List.length_singleton] at hI
    rw [List.reverse_append, List.reverse_singleton, List.singleton_append, List.foldl_cons]
    exact ih _ hn' (fun x hx => by
      have := hl x (by simp [hx])
      rwa [List.idxOf_append_of_mem hx] at this)
      (chkStep_inv hwf hr hP (A := acc.1) hI acc.2 hb hbr (by rw [hnum]))

end

/-- a chosen predecessor exited later (the DFS parent, or any such predecessor) -/
noncomputable def dfsPar (g : G) (root : Nat) (x : Nat) : Nat := by
  classical
  exact if h : ∃ u, Edge g u x ∧ List.Sublist [x, u] (postOrder g root) then Classical.choose h else 0

lemma dfsPar_spec (g : G) (hwf : WF g) (root : Nat) (hr : root < g.size) (x : Nat)
    (hx : Path g root x) (hxr : x ≠ root) :
    Edge g (dfsPar g root x) x ∧ List.Sublist [x, dfsPar g root x] (postOrder g root) := by
  classical
  have h := postOrder_parent g hwf root hr x ((mem_postOrder_iff g root hwf hr x).2 hx) hxr
  unfold dfsPar
  rw [dif_pos h]
  exact Classical.choose_spec h

/-- the post-order ends with the root; the nodes before it are numbered by their position -/
lemma postOrder_eq_append (g : G) (hwf : WF g) (root : Nat) (hr : root < g.size) :
    ∃ ys, postOrder g root = ys ++ [root] ∧ pnum (poNumArr g root) root = ys.length ∧
      ys.length < g.size ∧ ys.Nodup ∧
      ∀ x ∈ ys, Path g root x ∧ x ≠ root ∧ pnum (poNumArr g root) x = ys.idxOf x := by
  obtain ⟨ys, hys⟩ := List.getLast?_eq_some_iff.1 (postOrder_last g root)
  have hnd := postOrder_nodup g root hwf hr
  have hlen := nodup_length_le _ g.size hnd (mem_postOrder_lt g hwf root hr)
  have hpn := pnum_po g hwf root hr
  have hmem := mem_postOrder_iff g root hwf hr
  rw [hys] at hnd hlen hpn hmem
  obtain ⟨hn1, -, hdis⟩ := List.nodup_append.1 hnd
  have hroot : root ∉ ys := fun h => hdis root h root (by simp) rfl
  refine ⟨ys, hys, ?_, by simpa using hlen, hn1, fun x hx =>
    ⟨(hmem x).1 (by simp [hx]), fun e => hroot (e ▸ hx), ?_⟩⟩
  · rw [hpn root (by simp), List.idxOf_append_of_notMem hroot]; simp
  · rw [hpn x (by simp [hx]), List.idxOf_append_of_mem hx]

lemma po_dfs (g : G) (hwf : WF g) (root : Nat) (hr : root < g.size) :
    PO g root (poNumArr g root) (dfsPar g root) := by
  obtain ⟨ys, hys, hpr, hlen, -, hy⟩ := postOrder_eq_append g hwf root hr
  have hnd := postOrder_nodup g root hwf hr
  have hmem := fun v => mem_postOrder_iff g root hwf hr v
  refine ⟨?_, ?_, ?_, ?_, ?_, ?_⟩
  · intro x y hx hy h
    have hx' := (hmem x).2 hx
    have hy' := (hmem y).2 hy
    rw [pnum_po g hwf root hr x hx', pnum_po g hwf root hr y hy'] at h
    exact (List.idxOf_inj hx').1 h
  · intro x hx hxr
    have hxy : x ∈ ys := by
      have := (hmem x).2 hx
      rw [hys] at this
      simpa [hxr] using this
    rw [hpr, (hy x hxy).2.2]
    exact List.idxOf_lt_length_of_mem hxy
  · rw [hpr]; exact hlen
  · intro x hx hxr
    exact (dfsPar_spec g hwf root hr x hx hxr).1
  · intro x hx hxr
    have h := (dfsPar_spec g hwf root hr x hx hxr).2
    exact (hmem _).1 (h.subset (by simp))
  · intro x hx hxr
    have h := (dfsPar_spec g hwf root hr x hx hxr).2
    have hx' := (hmem x).2 hx
    have hu' : dfsPar g root x ∈ postOrder g root := h.subset (by simp)
    rw [pnum_po g hwf root hr x hx', pnum_po g hwf root hr _ hu']
    exact idxOf_lt_of_sublist _ hnd _ _ h

section
variable {g : G} {root : Nat} {k : Nat}

/-- the pass of `idomCHK` -/
def passCHK (g : G) (root : Nat) (A : Array Int) : Array Int × Bool :=
  chkPass g (transpose g) root (postOrder g root).reverse (poNumArr g root) A

lemma pass_inv (hwf : WF g) (hr : root < g.size) {A : Array Int}
    (hI : Inv g root (poNumArr g root) (dfsPar g root) k (pnum (poNumArr g root) root) A) :
    Inv g root (poNumArr g root) (dfsPar g root) k 0 (passCHK g root A).1 := by
  obtain ⟨ys, hys, hpr, -, hnd, hy⟩ := postOrder_eq_append g hwf root hr
  unfold passCHK
  rw [chkPass_eq, hys, List.reverse_append, List.reverse_singleton, List.singleton_append,
    List.foldl_cons, chkStep_root]
  exact foldl_chkStep_inv (k := k) hwf hr (po_dfs g hwf root hr) ys (A, false) hnd hy (hpr ▸ hI)

lemma pass_unchanged {A : Array Int} (h : (passCHK g root A).2 = false) :
    passCHK g root A = (A, false) :=
  foldl_chkStep_unchanged _ _ _ _ _ _ h

/-- the initial array of `idomCHK` -/
def initCHK (g : G) (root : Nat) : Array Int :=
  (Array.replicate g.size (-1 : Int)).setIfInBounds root (root : Int)

lemma initCHK_getD (hr : root < g.size) (x : Nat) :
    (initCHK g root).getD x (-1) = if x = root then (root : Int) else -1 := by
  rw [initCHK, getD_setIfInBounds_of_lt _ _ _ _ (by rwa [Array.size_replicate]), getD_replicate]

lemma initCHK_proc (hr : root < g.size) (x : Nat) : proc (initCHK g root) x ↔ x = root := by
  unfold proc
  rw [initCHK_getD hr]
  by_cases h : x = root
  · simp [h]
  · simp [h]

lemma initCHK_inv (hwf : WF g) (hr : root < g.size) :
    Inv g root (poNumArr g root) (dfsPar g root) 1 (pnum (poNumArr g root) root) (initCHK g root) := by
  have hP := po_dfs g hwf root hr
  have hpr := initCHK_proc (g := g) hr
  have hparr : par (initCHK g root) root = root := by
    unfold par; rw [initCHK_getD hr, if_pos rfl]; simp
  have hT : TI g root (poNumArr g root) (initCHK g root) := by
    refine ⟨by simp [initCHK], by rw [initCHK_getD hr, if_pos rfl], ?_, ?_, ?_, ?_⟩
    · intro x hx; rw [(hpr x).1 hx]; exact Relation.ReflTransGen.refl
    · intro x hx; rw [(hpr x).1 hx, hparr, initCHK_getD hr, if_pos rfl]
    · intro x hx; rw [(hpr x).1 hx, hparr]; exact (hpr root).2 rfl
    · intro x hx hxr; exact absurd ((hpr x).1 hx) hxr
  have hxr : ∀ x, Path g root x → pnum (poNumArr g root) root ≤ pnum (poNumArr g root) x → x = root := by
    intro x hx hle
    by_contra hne
    have := hP.lt_root x hx hne
    omega
  refine ⟨hT, fun x hx hc => ?_, fun x hx hne => absurd ((hpr x).1 hx) hne, fun x c hx hxc => ?_,
    fun b hb hne => absurd ((hpr b).1 hb) hne, fun u hu hle hne => absurd (hxr u hu hle) hne,
    fun x d hx hd => ?_, fun x c d hx hxc hcd hd => ?_, fun x hx w hw _ c hxc => ?_⟩
  · rcases hc with hc | hc
    · exact (hpr x).2 (hxr x hx hc)
    · omega
  · obtain rfl := (hpr x).1 hx
    rw [hT.up_root_eq hxc]; exact Relation.ReflTransGen.refl
  · obtain rfl := (hpr x).1 hx
    rw [hd.eq_root]; exact Relation.ReflTransGen.refl
  · obtain rfl := (hpr x).1 hx
    rw [hT.up_root_eq hxc]; exact hd
  · obtain rfl := (hpr x).1 hx
    rw [hT.up_root_eq hxc]; exact hw.head_mem

/-- what the iteration ends with: the invariant holds at the start of some pass `k ≥ 2` (so every
reachable node is processed) and every chain element is a dominator; with `Inv.l1` the chains are
then exactly the dominators -/
def Good (g : G) (root : Nat) (A : Array Int) : Prop :=
  ∃ k, 2 ≤ k ∧
    Inv g root (poNumArr g root) (dfsPar g root) k (pnum (poNumArr g root) root) A ∧
    ∀ x c, proc A x → Up A x c → Dom g root c x

lemma inv_of_fixed (hwf : WF g) (hr : root < g.size) {A : Array Int}
    (hfix : (passCHK g root A).1 = A) :
    ∀ j, Inv g root (poNumArr g root) (dfsPar g root) k (pnum (poNumArr g root) root) A →
      Inv g root (poNumArr g root) (dfsPar g root) (k + j) (pnum (poNumArr g root) root) A := by
  intro j
  induction j with
  | zero => intro h; exact h
  | succ j ih =>
    intro h
    have h1 := pass_inv hwf hr (ih h)
    rw [hfix] at h1
    exact h1.next (po_dfs g hwf root hr)

lemma chkIter_good (hwf : WF g) (hr : root < g.size) :
    ∀ (f k : Nat) (A : Array Int), 1 ≤ k →
      Inv g root (poNumArr g root) (dfsPar g root) k (pnum (poNumArr g root) root) A →
      g.size + 1 ≤ k + f →
      Good g root (chkIter g (transpose g) root (postOrder g root).reverse (poNumArr g root) f A) := by
  intro f
  induction f with
  | zero =>
    intro k A hk hI hf
    exact ⟨k, by omega, hI, hI.correct hwf hr (by omega)⟩
  | succ f ih =>
    intro k A hk hI hf
    rw [chkIter_succ, ← passCHK]
    have p1 := pass_inv hwf hr hI
    by_cases hch : (passCHK g root A).2 = true
    · rw [if_pos hch]
      exact ih (k + 1) _ (by omega) (p1.next (po_dfs g hwf root hr)) (by omega)
    · rw [if_neg hch]
      have hfix := congrArg Prod.fst (pass_unchanged (by simpa using hch))
      rw [hfix]
      have hbig := inv_of_fixed (k := k) hwf hr hfix (g.size + 1) hI
      exact ⟨k + (g.size + 1), by omega, hbig, hbig.correct hwf hr (by omega)⟩

/-- from the initial array, any fuel `f ≥ g.size` reaches the dominator tree -/
lemma chkIter_init_good (hwf : WF g) (hr : root < g.size) {f : Nat} (hf : g.size ≤ f) :
    Good g root (chkIter g (transpose g) root (postOrder g root).reverse (poNumArr g root) f
      (initCHK g root)) :=
  chkIter_good hwf hr f 1 (initCHK g root) le_rfl (initCHK_inv hwf hr) (by omega)

end

section
variable {g : G} {root : Nat} {P : Array Nat} {π : Nat → Nat} {A : Array Int}

/-- parent property ⟹ every chain element is a dominator -/
lemma parent_prop_sound (hT : TI g root P A)
    (hpar : ∀ b p, Path g root b → b ≠ root → Path g root p → Edge g p b → Up A p (par A b)) :
    ∀ x c, proc A x → Up A x c → Dom g root c x := by
  intro x c hx hxc
  refine Dom.of_not_av (hT.hpath x hx) (hT.hpath c (hT.up_proc hx hxc)) fun _ hrc hav => ?_
  have key : ∀ y, Av g c root y → ¬ Up A y c := by
    intro y hy
    induction hy with
    | refl => intro h; exact hrc (hT.up_root_eq h).symm
    | @tail y z hry hyz ih =>
      intro hzc
      have hz : Path g root z := Relation.ReflTransGen.tail (Av.path hry) hyz.1
      have hzr : z ≠ root := by
        rintro rfl
        exact hrc (hT.up_root_eq hzc).symm
      rcases up_head hzc with h | h
      · exact hyz.2 h
      · exact ih ((hpar z y hz hzr (Av.path hry) hyz.1).trans h)
  exact key x hav hxc

lemma par_eq_tid (hwf : WF g) (hr : root < g.size) (hT : TI g root P A)
    (hlow : ∀ x d, proc A x → Dom g root d x → Up A x d)
    (hC : ∀ x c, proc A x → Up A x c → Dom g root c x)
    (v : Nat) (hpv : proc A v) (hvr : v ≠ root) : A.getD v (-1) = (tid g root v : Int) := by
  have hv := hT.hpath v hpv
  obtain ⟨e1, e2, e3, e4⟩ := tid_spec g hwf root v hr hvr hv
  have hq : Dom g root (par A v) v := hC v _ hpv (up_step v)
  have hqv : par A v ≠ v := by
    have := hT.hplt v hpv hvr
    intro e; rw [e] at this; omega
  have h1 : Up A v (tid g root v) := hlow v _ hpv e3
  have h2 : Up A (par A v) (tid g root v) := by
    rcases up_head h1 with h | h
    · exact absurd h.symm e2
    · exact h
  have h3 : Dom g root (tid g root v) (par A v) := hC _ _ (hT.hpp v hpv) h2
  have h4 : Dom g root (par A v) (tid g root v) := e4 _ hqv hq
  rw [hT.hnat v hpv, h4.antisymm h3]

lemma toList_eq_idomSpec (hwf : WF g) (hr : root < g.size) (hT : TI g root P A)
    (hpe : ∀ v, Path g root v → v ≠ root → A.getD v (-1) = (tid g root v : Int)) :
    (A.setIfInBounds root (-1)).toList = idomSpec g root := by
  rw [toList_eq_map_getD _ (-1), Array.size_setIfInBounds, hT.hsize, idomSpec_eq]
  refine List.map_congr_left fun v hv => ?_
  have hv' : v < A.size := hT.hsize ▸ List.mem_range.1 hv
  rw [getD_setIfInBounds]
  by_cases hvr : v = root
  · rw [if_pos ⟨hvr, hv'⟩, idomEntry_unreach g hwf root v hr (Or.inl hvr)]
  · rw [if_neg fun h => hvr h.1]
    by_cases hp : Path g root v
    · rw [hpe v hp hvr, (tid_spec g hwf root v hr hvr hp).1]
    · rw [idomEntry_unreach g hwf root v hr (Or.inr hp)]
      exact by_contra fun hne => hp (hT.hpath v hne)

end

lemma idomCHK_eq (g : G) (root : Nat) :
    idomCHK g root =
      ((chkIter g (transpose g) root (postOrder g root).reverse (poNumArr g root) (g.size + 3)
        (initCHK g root)).setIfInBounds root (-1)).toList := by
  rfl

lemma good_getD (g : G) (hwf : WF g) (root : Nat) (hr : root < g.size) (A : Array Int)
    (hG : Good g root A) (v : Nat) (hv : Path g root v) (hvr : v ≠ root) :
    A.getD v (-1) = (tid g root v : Int) := by
  obtain ⟨k, hk, hI, hC⟩ := hG
  exact par_eq_tid hwf hr hI.ti hI.l1 hC v (hI.r1 v hv (Or.inr hk)) hvr

end CHK

/-- The Cooper–Harvey–Kennedy routine (mirror of the Go code, with its pass fuel
`g.size + 3` and `intersect` fuel `2 * g.size + 2`) computes exactly the definitional immediate
dominators: for a well-formed graph and a root in range, `idomCHK g root = idomSpec g root`
(`-1` for the root and for unreachable nodes). In particular the iteration converges within the
fuel, also on irreducible graphs. -/
theorem idomCHK_eq_spec (g : G) (hwf : WF g) (root : Nat) (hr : root < g.size) :
    idomCHK g root = idomSpec g root := by
  have hG := chkIter_init_good hwf hr (Nat.le_add_right g.size 3)
  have ⟨k, hk, hI, hC⟩ := hG
  rw [idomCHK_eq]
  exact toList_eq_idomSpec hwf hr hI.ti (good_getD g hwf root hr _ hG)

namespace CHK

example : WF exD := by decide
example : idomCHK exD 0 = idomSpec exD 0 := idomCHK_eq_spec exD (by decide) 0 (by decide)
example : idomCHK exD 0 = [-1, 0, 0, 0] := by decide +kernel

end CHK

/-- `intersect` (with the fuel `2 * g.size + 2` used by the pass) returns the nearest
common ancestor of two processed nodes in the partial dominator tree stored in `A`: whenever the
parent pointers of `A` strictly increase the post-order number and lead to the root (`TI`), the
result `m` lies on the parent chains of both `b1` and `b2`, and every common chain element `c`
lies on the chain of `m`. -/
theorem intersect_nca {g : G} {root : Nat} {P : Array Nat} {π : Nat → Nat} {A : Array Int}
    (hT : TI g root P A) (hP : PO g root P π) (b1 b2 : Nat)
    (h1 : proc A b1) (h2 : proc A b2) :
    Up A b1 (intersect A P (2 * g.size + 2) b1 b2) ∧ Up A b2 (intersect A P (2 * g.size + 2) b1 b2) ∧
      ∀ c, Up A b1 c → Up A b2 c → Up A (intersect A P (2 * g.size + 2) b1 b2) c :=
  intersect_spec hT hP _ b1 b2 h1 h2 (hP.fuel b1 b2)

/-- Partial correctness of the fixed point.  Let `A` be an `idom` array
whose parent pointers strictly increase the post-order number and lead to the root (`TI`, which
also says that exactly reachable nodes may carry a parent and `A[root] = root`), in which every
reachable node has a parent, and such that
* (parent property) for every reachable `b ≠ root`, `A[b]` lies on the parent chain of every
  reachable predecessor of `b` — this is what a pass reporting "no change" establishes, and
* (over-approximation) every true dominator of a node lies on its parent chain — the invariant
  the iteration maintains because it approaches the solution from above.
Then `A` with the root entry reset to `-1` is exactly `idomSpec g root`.
The second hypothesis cannot be dropped: a tree-shaped array on which a pass reports no change
need not be the dominator tree, as the example after this theorem shows. -/
theorem chk_fixpoint_correct_partial {g : G} {root : Nat} {P : Array Nat} {A : Array Int}
    (hwf : WF g) (hr : root < g.size) (hT : TI g root P A)
    (hall : ∀ x, Path g root x → proc A x)
    (hpar : ∀ b p, Path g root b → b ≠ root → Path g root p → Edge g p b → Up A p (par A b))
    (hlow : ∀ x d, proc A x → Dom g root d x → Up A x d) :
    (A.setIfInBounds root (-1)).toList = idomSpec g root := by
  have hC := parent_prop_sound hT hpar
  exact toList_eq_idomSpec hwf hr hT (fun v hv hvr => par_eq_tid hwf hr hT hlow hC v (hall v hv) hvr)

namespace CHK

/-- On `0 → 1 → 2 → 3 → 2` the array `[0, 0, 0, 2]` (node `2` hanging directly below the root) is a
tree with increasing post-order numbers on which a pass reports no change, yet the dominator tree
is `[-1, 0, 1, 2]`: being a fixed point of a pass is not enough. -/
example :
    chkPass #[[1], [2], [3], [2]] (transpose #[[1], [2], [3], [2]]) 0
        (postOrder #[[1], [2], [3], [2]] 0).reverse (poNumArr #[[1], [2], [3], [2]] 0) #[0, 0, 0, 2]
      = (#[0, 0, 0, 2], false) ∧
    idomSpec #[[1], [2], [3], [2]] 0 = [-1, 0, 1, 2] ∧
    poNumArr #[[1], [2], [3], [2]] 0 = #[3, 2, 1, 0] := by
  refine ⟨?_, ?_, ?_⟩ <;> decide +kernel

section
variable {g : G} {root : Nat}

lemma good_newIdom (hwf : WF g) (hr : root < g.size) {A : Array Int} (hG : Good g root A)
    {b : Nat} (hb : Path g root b) (hbr : b ≠ root) :
    newIdom g (poNumArr g root) A ((transpose g).getD b []) = A.getD b (-1) := by
  have hP := po_dfs g hwf root hr
  have ⟨k, hk, hI, hC⟩ := hG
  obtain ⟨e1, e2, e3, e4⟩ := tid_spec g hwf root b hr hbr hb
  obtain ⟨a, ha, hpa, hspec, -, hlt⟩ := newIdom_up hwf hr hI.ti hP hb hbr
    (hI.r1 _ (hP.par_path b hb hbr) (Or.inr hk))
  have hab : a ≠ b := fun e => absurd (e ▸ hlt) (lt_irrefl _)
  have h1 : Up A a (tid g root b) := by
    rw [hspec]
    intro p hp hpp
    exact hI.l1 p _ hpp (e3.pred e2 (hI.ti.hpath p hpp) hp)
  have h2 : Dom g root a b := Dom.of_preds hb hbr (fun p hp hpe =>
    hC p a (hI.r1 p hp (Or.inr hk)) ((hspec a).1 Relation.ReflTransGen.refl p hpe
      (hI.r1 p hp (Or.inr hk))))
  have h3 : Dom g root a (tid g root b) := e4 a hab h2
  have h4 : Dom g root (tid g root b) a := hC a _ hpa h1
  rw [ha, good_getD g hwf root hr A hG b hb hbr, h3.antisymm h4]

lemma good_pass (hwf : WF g) (hr : root < g.size) {A : Array Int} (hG : Good g root A) :
    passCHK g root A = (A, false) := by
  obtain ⟨ys, hys, -, -, -, hy⟩ := postOrder_eq_append g hwf root hr
  unfold passCHK
  rw [chkPass_eq, hys, List.reverse_append, List.reverse_singleton, List.singleton_append,
    List.foldl_cons, chkStep_root]
  have hmem : ∀ b ∈ ys.reverse, Path g root b ∧ b ≠ root := fun b hb =>
    ⟨(hy b (List.mem_reverse.1 hb)).1, (hy b (List.mem_reverse.1 hb)).2.1⟩
  generalize ys.reverse = l at hmem
  induction l with
  | nil => rfl
  | cons b l ih =>
    have hb := hmem b (by simp)
    have hstep : chkStep g (transpose g) root (poNumArr g root) (A, false) b = (A, false) := by
      unfold chkStep
      have hb1 : (b == root) = false := by simpa using hb.2
      simp only [hb1, Bool.false_eq_true, if_false, good_newIdom hwf hr hG hb.1 hb.2, bne_self_eq_false]
    rw [List.foldl_cons, hstep]
    exact ih (fun x hx => hmem x (by simp [hx]))

lemma good_unique (hwf : WF g) (hr : root < g.size) {A B : Array Int} (hA : Good g root A)
    (hB : Good g root B) : A = B := by
  have ⟨k, hk, hI, hC⟩ := hA
  have ⟨k', hk', hI', hC'⟩ := hB
  rw [← Array.toList_inj, toList_eq_map_getD A (-1), toList_eq_map_getD B (-1), hI.ti.hsize,
    hI'.ti.hsize]
  refine List.map_congr_left fun v _ => ?_
  by_cases hvr : v = root
  · rw [hvr, hI.ti.hroot, hI'.ti.hroot]
  · by_cases hp : Path g root v
    · rw [good_getD g hwf root hr A hA v hp hvr, good_getD g hwf root hr B hB v hp hvr]
    · rw [show A.getD v (-1) = -1 from by_contra fun hne => hp (hI.ti.hpath v hne),
        show B.getD v (-1) = -1 from by_contra fun hne => hp (hI'.ti.hpath v hne)]

end

end CHK

/-- The iteration has converged when `idomCHK` stops: one more pass over the array
returned by `chkIter` with the fuel `g.size + 3` used by `idomCHK` changes nothing and reports
`changed = false`.  (So the fuel is not what stops the loop; see also `chkIter_fuel_irrelevant`.) -/
theorem chk_converged (g : G) (hwf : WF g) (root : Nat) (hr : root < g.size) :
    chkPass g (transpose g) root (postOrder g root).reverse (poNumArr g root)
        (chkIter g (transpose g) root (postOrder g root).reverse (poNumArr g root) (g.size + 3)
          (initCHK g root)) =
      (chkIter g (transpose g) root (postOrder g root).reverse (poNumArr g root) (g.size + 3)
          (initCHK g root), false) :=
  good_pass hwf hr (chkIter_init_good hwf hr (Nat.le_add_right g.size 3))

/-- At most `g.size` passes are ever needed: running `chkIter` with any fuel
`f ≥ g.size` gives the same array as with the fuel `g.size + 3` of `idomCHK` (the known bound
`d(G) + 3` with loop connectedness `d(G) < g.size`, here obtained as: after pass `k` every chain
element of `x` lies on every walk from the root to `x` with fewer than `k` edges). -/
theorem chkIter_fuel_irrelevant (g : G) (hwf : WF g) (root : Nat) (hr : root < g.size) (f : Nat)
    (hf : g.size ≤ f) :
    chkIter g (transpose g) root (postOrder g root).reverse (poNumArr g root) f (initCHK g root) =
      chkIter g (transpose g) root (postOrder g root).reverse (poNumArr g root) (g.size + 3)
        (initCHK g root) :=
  good_unique hwf hr (chkIter_init_good hwf hr hf) (chkIter_init_good hwf hr (Nat.le_add_right g.size 3))

namespace CHK

example := chk_converged exD (by decide) 0 (by decide)
example := chkIter_fuel_irrelevant exD (by decide) 0 (by decide) 4 (by decide)
example : chkIter exD (transpose exD) 0 (postOrder exD 0).reverse (poNumArr exD 0) 4 (initCHK exD 0)
    = #[0, 0, 0, 0] := by decide +kernel

lemma good_parent_prop {g : G} {root : Nat} (hwf : WF g) (hr : root < g.size) {A : Array Int}
    (hG : Good g root A) :
    ∀ b p, Path g root b → b ≠ root → Path g root p → Edge g p b → Up A p (par A b) := by
  intro b p hb hbr hp he
  have ⟨k, hk, hI, hC⟩ := hG
  obtain ⟨e1, e2, e3, e4⟩ := tid_spec g hwf root b hr hbr hb
  have : par A b = tid g root b := by
    unfold par; rw [good_getD g hwf root hr A hG b hb hbr]; simp
  rw [this]
  exact hI.l1 p _ (hI.r1 p hp (Or.inr hk)) (e3.pred e2 hp he)

/-- the array computed by the iteration on the diamond-with-back-edge graph `exD` has the four
properties `chk_fixpoint_correct_partial` asks for -/
example : ((chkIter exD (transpose exD) 0 (postOrder exD 0).reverse (poNumArr exD 0) 7
    (initCHK exD 0)).setIfInBounds 0 (-1)).toList = idomSpec exD 0 := by
  have hG := chkIter_init_good (g := exD) (root := 0) (by decide) (by decide) (f := 7) (by decide)
  have ⟨k, hk, hI, hC⟩ := hG
  exact chk_fixpoint_correct_partial (by decide) (by decide) hI.ti
    (fun x hx => hI.r1 x hx (Or.inr hk)) (good_parent_prop (by decide) (by decide) hG) hI.l1

/-- `intersect_nca` on the final array of `exD`: the result for the two branch nodes `1`, `2`
is below every common chain element -/
example : ∀ c,
    Up (chkIter exD (transpose exD) 0 (postOrder exD 0).reverse (poNumArr exD 0) 7 (initCHK exD 0)) 1 c →
    Up (chkIter exD (transpose exD) 0 (postOrder exD 0).reverse (poNumArr exD 0) 7 (initCHK exD 0)) 2 c →
    Up (chkIter exD (transpose exD) 0 (postOrder exD 0).reverse (poNumArr exD 0) 7 (initCHK exD 0))
      (intersect (chkIter exD (transpose exD) 0 (postOrder exD 0).reverse (poNumArr exD 0) 7
        (initCHK exD 0)) (poNumArr exD 0) (2 * exD.size + 2) 1 2) c := by
  have hG := chkIter_init_good (g := exD) (root := 0) (by decide) (by decide) (f := 7) (by decide)
  have ⟨k, hk, hI, hC⟩ := hG
  have h1 : Path exD 0 1 := (reachB_iff_path exD (by decide) 0 1 (by decide)).1 (by decide +kernel)
  have h2 : Path exD 0 2 := (reachB_iff_path exD (by decide) 0 2 (by decide)).1 (by decide +kernel)
  exact (intersect_nca hI.ti (po_dfs exD (by decide) 0 (by decide)) 1 2
    (hI.r1 1 h1 (Or.inr hk)) (hI.r1 2 h2 (Or.inr hk))).2.2

/-- G1 on an irreducible graph (two-entry loop `1 ⇄ 2` entered from `0` at both nodes) -/
example : idomCHK #[[1, 2], [2], [1]] 0 = idomSpec #[[1, 2], [2], [1]] 0 :=
  idomCHK_eq_spec _ (by decide) 0 (by decide)
example : idomCHK #[[1, 2], [2], [1]] 0 = [-1, 0, 0] := by decide +kernel

/-- the only discrepancy in G2: a root with exactly one incoming edge (`0 ⇄ 1`, root `0`) is in
the definitional frontiers of `0` and `1` but is skipped by the Go routine -/
example : dfSpec #[[1], [0]] 0 = [[0], [0]] ∧
    domFrontierCHK #[[1], [0]] 0 (idomSpec #[[1], [0]] 0) = [[], []] ∧
    rootInDeg #[[1], [0]] 0 = 1 := by
  refine ⟨?_, ?_, ?_⟩ <;> decide +kernel

end CHK
end MV.Graph
