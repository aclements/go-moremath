import Mathlib.Analysis.SpecialFunctions.Log.Base
import MV.Proofs.Interval
import MV.Props.C14
/-!
# C14 (log) — the real-valued specification of `LogHist` and the soundness of the judge

`LogHist` has no exact rational model (logarithms are irrational).  This file

* states its specification over ℝ (`logBinR`, `logBinToValueR`) and proves the structural facts the
  property relies on (bin ↔ edges, monotonicity, inverse, slots, conservation);
* links the specification to what the driver `handleLog` (MV/Driver/Hist.lean) accepts: its interval
  `pos x` encloses `m·log_b x` (`pos_sound`), its candidate list `candsRange (p.lo − d) (p.hi + d)`
  contains the true bin (`candsRange_sound`), its bin-count and `BinToValue` enclosures are sound
  (`nbins_sound`, `b2v_sound`);
* proves, in `namespace MV.I`, what `pos_sound` needs of the interval library and the library does
  not provide: the enclosure `logQ b` of `log b` has a strictly positive lower end for `b ≥ 2`
  (`I.logQ_lo_pos`), so that the interval division by it is sound.

`candsList`, `cands_list_sound` and the last clause of `judge_sound` speak of the two-element list of
the END candidates `⌊p.lo − d⌋`, `⌊p.hi + d⌋`; the driver lists every integer between them
(`candsRange`), so for the driver's list `candsRange_sound` is the statement that applies.
-/
namespace MV.Hist

open MV

/-- Real specification of the `LogHist` bin index: `⌊m · log_b x⌋`. -/
noncomputable def logBinR (b : ℕ) (m x : ℝ) : ℤ := ⌊m * Real.logb b x⌋

/-- Real specification of `LogHist.BinToValue`: `b^(v/m)`. -/
noncomputable def logBinToValueR (b : ℕ) (m v : ℝ) : ℝ := (b : ℝ) ^ (v / m)

section spec
variable {b : ℕ} {m x y : ℝ}

lemma base_gt_one (hb : 2 ≤ b) : (1 : ℝ) < (b : ℝ) := by
  have : (2 : ℝ) ≤ (b : ℝ) := by exact_mod_cast hb
  linarith

lemma base_pos (hb : 2 ≤ b) : (0 : ℝ) < (b : ℝ) := lt_trans one_pos (base_gt_one hb)

lemma zero_lt_logBinToValue (hb : 2 ≤ b) (m v : ℝ) : 0 < logBinToValueR b m v :=
  Real.rpow_pos_of_pos (base_pos hb) _

/-- Galois-connection form of the log binning rule: the integer `i` is at most the bin index of `x`
exactly when the lower edge `BinToValue(i) = b^(i/m)` is at most `x`. -/
theorem le_logBin_iff (hb : 2 ≤ b) (hm : 0 < m) (hx : 0 < x) (i : ℤ) :
    i ≤ logBinR b m x ↔ logBinToValueR b m (i : ℝ) ≤ x := by
  unfold logBinR logBinToValueR
  rw [Int.le_floor, ← Real.le_logb_iff_rpow_le (base_gt_one hb) hx, div_le_iff₀ hm, mul_comm]

/-- The bin index of `x` is below the integer `i` exactly when `x` is strictly below the edge
`BinToValue(i)`. -/
theorem logBin_lt_iff (hb : 2 ≤ b) (hm : 0 < m) (hx : 0 < x) (i : ℤ) :
    logBinR b m x < i ↔ x < logBinToValueR b m (i : ℝ) := by
  rw [← not_le, le_logBin_iff hb hm hx, not_le]

/-- A positive sample lands in bin `i` (any integer, also out-of-range ones) exactly when it
lies in the half-open interval between the consecutive bin values `b^(i/m)` and `b^((i+1)/m)`. -/
theorem logBin_iff (hb : 2 ≤ b) (hm : 0 < m) (hx : 0 < x) (i : ℤ) :
    logBinR b m x = i ↔
      logBinToValueR b m (i : ℝ) ≤ x ∧ x < logBinToValueR b m ((i : ℝ) + 1) := by
  rw [← le_logBin_iff hb hm hx, show ((i : ℝ) + 1) = ((i + 1 : ℤ) : ℝ) by push_cast; ring,
    ← logBin_lt_iff hb hm hx]
  omega

/-- `BinToValue` is strictly increasing in the (fractional) bin position, is `1` at
position `0`, and position `m·k` has value `b^k` (there are `m` bins per power of `b`). -/
theorem logBinToValue_strictMono (hb : 2 ≤ b) (hm : 0 < m) :
    StrictMono (logBinToValueR b m) ∧ logBinToValueR b m 0 = 1 ∧
      ∀ k : ℕ, logBinToValueR b m (m * k) = (b : ℝ) ^ k := by
  refine ⟨?_, ?_, ?_⟩
  · intro u v huv
    unfold logBinToValueR
    exact Real.rpow_lt_rpow_of_exponent_lt (base_gt_one hb) (div_lt_div_of_pos_right huv hm)
  · simp [logBinToValueR]
  · intro k
    unfold logBinToValueR
    rw [mul_div_cancel_left₀ _ hm.ne', Real.rpow_natCast]

/-- `m · log_b` is the inverse of `BinToValue`: the (fractional) bin position of the value
of position `v` is `v`. -/
theorem logBinToValue_logBin_inverse (hb : 2 ≤ b) (hm : 0 < m) (v : ℝ) :
    m * Real.logb b (logBinToValueR b m v) = v := by
  unfold logBinToValueR
  rw [Real.logb_rpow (base_pos hb) (base_gt_one hb).ne', mul_div_cancel₀ _ hm.ne']

/-- The other direction of the inverse: the value of the fractional position of `x` is `x`. -/
theorem logBinToValue_pos_inverse (hb : 2 ≤ b) (hm : 0 < m) (hx : 0 < x) :
    logBinToValueR b m (m * Real.logb b x) = x := by
  unfold logBinToValueR
  rw [mul_div_cancel_left₀ _ hm.ne', Real.rpow_logb (base_pos hb) (base_gt_one hb).ne' hx]

/-- The bin index is non-decreasing in the sample. -/
theorem logBin_mono (hb : 2 ≤ b) (hm : 0 < m) (hx : 0 < x) (hxy : x ≤ y) :
    logBinR b m x ≤ logBinR b m y := by
  rw [le_logBin_iff hb hm (hx.trans_le hxy)]
  exact ((le_logBin_iff hb hm hx _).1 le_rfl).trans hxy

/-- A positive sample has a negative bin index (is counted as underflow) exactly when it is
below `1`. -/
theorem logBin_under_iff (hb : 2 ≤ b) (hm : 0 < m) (hx : 0 < x) :
    logBinR b m x < 0 ↔ x < 1 := by
  rw [logBin_lt_iff hb hm hx 0]
  simp [logBinToValueR]

/-- A positive sample has bin index at least `n` (is counted as overflow in a histogram of
`n` bins) exactly when it is at least the value `b^(n/m)` of position `n`. -/
theorem logBin_over_iff (hb : 2 ≤ b) (hm : 0 < m) (hx : 0 < x) (n : ℕ) :
    (n : ℤ) ≤ logBinR b m x ↔ logBinToValueR b m (n : ℝ) ≤ x := by
  rw [le_logBin_iff hb hm hx]
  simp

/-- Slot form of `logBin_under_iff`, `logBin_over_iff` and, for an in-range bin, of `logBin_iff`. -/
theorem logSlot_iff (hb : 2 ≤ b) (hm : 0 < m) (hx : 0 < x) (n : ℕ) :
    (slotOf n (logBinR b m x) = .under ↔ x < 1) ∧
    (slotOf n (logBinR b m x) = .over ↔ logBinToValueR b m (n : ℝ) ≤ x) ∧
    ∀ i : ℕ, i < n → (slotOf n (logBinR b m x) = .bin i ↔
      logBinToValueR b m (i : ℝ) ≤ x ∧ x < logBinToValueR b m ((i : ℝ) + 1)) := by
  refine ⟨?_, ?_, fun i hi => ?_⟩
  · rw [slotOf_eq_under_iff, logBin_under_iff hb hm hx]
  · rw [slotOf_eq_over_iff, logBin_over_iff hb hm hx]
  · rw [slotOf_eq_bin_iff hi, logBin_iff hb hm hx]
    simp

end spec

/-! ## Conservation -/

/-- All adds of a `LogHist` history, by the real specification, from given counters. -/
noncomputable def logRunFromR (b : ℕ) (m : ℝ) (n : ℕ) (xs : List ℝ) (c : Counts) : Counts :=
  xs.foldl (fun c x => c.add (slotOf n (logBinR b m x))) c

/-- All adds of a `LogHist` history, by the real specification, from empty counters. -/
noncomputable def logRunR (b : ℕ) (m : ℝ) (n : ℕ) (xs : List ℝ) : Counts :=
  logRunFromR b m n xs (Counts.empty n)

lemma logRunFromR_eq (b : ℕ) (m : ℝ) (n : ℕ) (xs : List ℝ) (c : Counts) :
    logRunFromR b m n xs c = classRun (logBinR b m) n xs c := rfl

/-- From any counters whose bin list has length `n`, a history of `Add`s
raises the total by the number of samples and keeps `n` bins. -/
theorem logRunFrom_total (b : ℕ) (m : ℝ) (n : ℕ) (xs : List ℝ) (c : Counts)
    (hc : c.bins.length = n) :
    (logRunFromR b m n xs c).total = c.total + xs.length ∧
      (logRunFromR b m n xs c).bins.length = n := by
  rw [logRunFromR_eq]; exact classRun_total _ n xs c hc

/-- After any history of `Add`s to a log histogram the counters (underflow, bins, overflow)
sum to the number of samples added, for every `b`, `m`, `n` and every list of samples. -/
theorem logRun_total (b : ℕ) (m : ℝ) (n : ℕ) (xs : List ℝ) :
    (logRunR b m n xs).total = xs.length := by
  rw [logRunR, logRunFromR_eq]; exact classRun_empty_total _ n xs

/-- The number of bins never changes. -/
theorem logRun_bins_length (b : ℕ) (m : ℝ) (n : ℕ) (xs : List ℝ) :
    (logRunR b m n xs).bins.length = n :=
  (logRunFrom_total b m n xs (Counts.empty n) (empty_bins_length n)).2

/-! ## Soundness of the judge -/

lemma ratFloor_cast (q : ℚ) : ⌊(q : ℝ)⌋ = q.floor := Rat.floor_cast q

lemma ratCeil_cast (q : ℚ) : ⌈(q : ℝ)⌉ = q.ceil := by
  rw [Rat.ceil_cast]
  exact le_antisymm (Int.ceil_le.2 Rat.le_ceil) (Rat.ceil_le_iff.2 (Int.le_ceil q))

/-- If the interval `p` contains the real `y` and `d ≥ 0`, then `⌊y⌋` lies between the floors of the
widened end points. -/
lemma floor_between {y : ℝ} {p : I} (hp : I.Mem y p) {d : ℚ} (hd : 0 ≤ d) :
    (p.lo - d).floor ≤ ⌊y⌋ ∧ ⌊y⌋ ≤ (p.hi + d).floor := by
  have hdR : (0 : ℝ) ≤ (d : ℝ) := by exact_mod_cast hd
  constructor
  · rw [← ratFloor_cast]
    apply Int.floor_le_floor
    push_cast
    linarith [hp.1]
  · rw [← ratFloor_cast]
    apply Int.floor_le_floor
    push_cast
    linarith [hp.2]

/-- If the rational interval `p` contains `m·log_b x` and `d ≥ 0`, then the true bin index
of `x` lies between `⌊p.lo − d⌋` and `⌊p.hi + d⌋` (inclusive). -/
theorem cands_sound (b : ℕ) (m x : ℝ) (p : I) (d : ℚ) (hd : 0 ≤ d)
    (hp : I.Mem (m * Real.logb b x) p) :
    (p.lo - d).floor ≤ logBinR b m x ∧ logBinR b m x ≤ (p.hi + d).floor :=
  floor_between hp hd

/-- The two END candidates `⌊p.lo − d⌋`, `⌊p.hi + d⌋` of the enclosure `p` widened by the tolerance
`d` (the driver's `candsOf` lists every integer between them: `candsRange`). -/
def candsList (p : I) (d : ℚ) : List ℤ :=
  let a := (p.lo - d).floor; let c := (p.hi + d).floor
  if a == c then [a] else [a, c]

/-- When the widened enclosure is shorter than one bin (`p.hi + d − (p.lo − d) < 1`) the two end
candidates are equal or adjacent, so the true bin index is one of them. -/
theorem cands_list_sound (b : ℕ) (m x : ℝ) (p : I) (d : ℚ) (hd : 0 ≤ d)
    (hp : I.Mem (m * Real.logb b x) p) (hw : (p.hi + d) - (p.lo - d) < 1) :
    logBinR b m x ∈ candsList p d := by
  obtain ⟨h1, h2⟩ := cands_sound b m x p d hd hp
  have h3 : (p.hi + d).floor ≤ (p.lo - d).floor + 1 :=
    (Int.floor_le_floor (by linarith : p.hi + d ≤ p.lo - d + 1)).trans_eq (Int.floor_add_one _)
  unfold candsList
  simp only [beq_iff_eq]
  split_ifs with h
  · simp; omega
  · simp; omega

/-- The judge's candidate list (`candsRange`, used by the driver for every sample) contains the floor of
every real number between its rational end points — in particular the true bin `logBinR b m x` whenever
the widened enclosure `[p.lo − d, p.hi + d]` contains `m · log_b x`, whatever its width. -/
theorem candsRange_sound (lo hi : ℚ) (r : ℝ) (h1 : (lo : ℝ) ≤ r) (h2 : r ≤ (hi : ℝ)) :
    ⌊r⌋ ∈ candsRange lo hi := by
  have ha : lo.floor ≤ ⌊r⌋ := by
    have : ((lo.floor : ℤ) : ℝ) ≤ r := le_trans (by exact_mod_cast (Rat.floor_le lo)) h1
    exact Int.le_floor.mpr this
  have hc : ⌊r⌋ ≤ hi.floor := by
    have : ((⌊r⌋ : ℤ) : ℚ) ≤ hi := by
      have h3 : ((⌊r⌋ : ℤ) : ℝ) ≤ (hi : ℝ) := le_trans (Int.floor_le r) h2
      exact_mod_cast h3
    exact Rat.le_floor_iff.mpr this
  unfold candsRange
  simp only [List.mem_map, List.mem_range]
  refine ⟨(⌊r⌋ - lo.floor).toNat, by omega, by omega⟩

example : (7 : ℤ) ∈ candsRange (20/3) (22/3) := by
  have := candsRange_sound (20/3) (22/3) 7 (by norm_num) (by norm_num)
  simpa using this

/-- Ceiling analogue (used for the number of bins `⌈m·log_b max⌉`): the true ceiling lies between
the ceilings of the widened end points. -/
theorem nbins_sound (b : ℕ) (m x : ℝ) (p : I) (d : ℚ) (hd : 0 ≤ d)
    (hp : I.Mem (m * Real.logb b x) p) :
    (p.lo - d).ceil ≤ ⌈m * Real.logb b x⌉ ∧ ⌈m * Real.logb b x⌉ ≤ (p.hi + d).ceil := by
  have hdR : (0 : ℝ) ≤ (d : ℝ) := by exact_mod_cast hd
  constructor
  · rw [← ratCeil_cast]
    apply Int.ceil_le_ceil
    push_cast
    linarith [hp.1]
  · rw [← ratCeil_cast]
    apply Int.ceil_le_ceil
    push_cast
    linarith [hp.2]

end MV.Hist

/-! ## The enclosure of `log q` is strictly positive for `q ≥ 2`

`I.div` is sound only when the divisor interval excludes zero.  The divisor in the driver is
`logQ b`; `Interval.lean` has no width bounds, so positivity of its lower end is proved here from a
crude, width-free magnitude analysis of the fixed-point `atanh` fold.

The budget.  For `q ≥ 2`, `logQ q = atanh2 z + e · ln2` (rounded down) with `e ≥ 1` and
`z = (m − 1)/(m + 1)`, `m ∈ [2/3, 3/2]`, hence `|z| ≤ 1/5`.
* `e · ln2` has lower end at least `0.69 − 0.01 = 0.68` (`ln2_lo_ge` evaluates `ln2`; every rounding
  to the grid `2⁻¹²⁸` loses less than `0.01`: `sub_le_rdn`).
* `atanh2 z` has lower end at least `−0.58`.  In grid units (`SR = 2¹²⁸ ≥ 10⁶`), `|z| ≤ 1/5` gives
  `|z| ≤ SR/4` (`ofRat_Bd`); `atanh2F` (Model/Interval.lean) runs its fold for `n + 1 = 46` steps;
  the running power after `j` steps is at most `SR/4 · 8⁻ʲ + 3` (`atanhFoldF_pw_bd`: each step
  multiplies by `z² ≤ SR/16 + 1` and rounds), so the partial sum, which gains `2·pw/(2j+1)` rounded
  down, stays above `−(4/7 · SR · (1 − 8⁻ʲ) + 8j)` (`atanhFoldF_s_lo`; `4/7 = (1/2)/(1 − 1/8)`);
  the final widening subtracts the model's remainder term `9·|pw| / (4·(2n+3)) + 1` with
  `4·(2·45+3) = 372`, which is negligible since `8⁻⁴⁶ ≤ 1/100`.  Altogether
  `4/7 · SR + 8·46 + small ≤ 0.58 · SR` (`atanh2F_lo_ge`).
* So the lower end of `logQ q` is at least `0.68 − 0.58 − 0.01 > 0` (`logCore_lo_pos`). -/

namespace MV.I
open FI

/-- both end points of a fixed-point interval have magnitude at most `M` (in grid units) -/
def FI.Bd (a : FI) (M : ℝ) : Prop := |((a.lo : ℤ) : ℝ)| ≤ M ∧ |((a.hi : ℤ) : ℝ)| ≤ M

lemma FI.Bd.mono {a : FI} {M N : ℝ} (h : FI.Bd a M) (hMN : M ≤ N) : FI.Bd a N :=
  ⟨h.1.trans hMN, h.2.trans hMN⟩

lemma FI.Bd.nonneg {a : FI} {M : ℝ} (h : FI.Bd a M) : 0 ≤ M := (abs_nonneg _).trans h.1

/-- a number within 1 of `x` has magnitude at most `|x| + 1` -/
lemma abs_le_of_near {y x B : ℝ} (hx : |x| ≤ B) (h1 : x - 1 < y) (h2 : y < x + 1) : |y| ≤ B + 1 :=
  abs_le.2 ⟨by linarith [(abs_le.1 hx).1], by linarith [(abs_le.1 hx).2]⟩

lemma fdivP_gt (x : ℤ) : (x : ℝ) / SR - 1 < ((fdivP x : ℤ) : ℝ) := by
  have h := cdivP_lt (-x)
  have e : cdivP (-x) = -fdivP x := by unfold cdivP fdivP; simp
  rw [e] at h
  push_cast at h
  rw [neg_div] at h
  linarith

lemma abs_div_SR_le {x B : ℝ} (h : |x| ≤ B) : |x / SR| ≤ B / SR := by
  rw [abs_div, abs_of_pos SR_pos]; exact div_le_div_of_nonneg_right h SR_pos.le

lemma abs_fdivP_le (x : ℤ) {B : ℝ} (h : |(x : ℝ)| ≤ B) : |((fdivP x : ℤ) : ℝ)| ≤ B / SR + 1 :=
  abs_le_of_near (abs_div_SR_le h) (fdivP_gt x) ((fdivP_le x).trans_lt (lt_add_one _))

lemma abs_cdivP_le (x : ℤ) {B : ℝ} (h : |(x : ℝ)| ≤ B) : |((cdivP x : ℤ) : ℝ)| ≤ B / SR + 1 :=
  abs_le_of_near (abs_div_SR_le h) ((sub_one_lt _).trans_le (le_cdivP x)) (cdivP_lt x)

lemma SR_large : (1000000 : ℝ) ≤ SR := by rw [SR_eq_pow]; norm_num

lemma ofRat_Bd (q : ℚ) (hq : |q| ≤ 1 / 5) : FI.Bd (FI.ofRat q) (SR / 4) := by
  have hxQ : |q * (scaleN : ℚ)| ≤ 1 / 5 * (scaleN : ℚ) := by
    rw [abs_mul, abs_of_pos scaleN_pos]; exact mul_le_mul_of_nonneg_right hq scaleN_pos.le
  have hx : |((q * (scaleN : ℚ) : ℚ) : ℝ)| ≤ 1 / 5 * SR := by
    have := (Rat.cast_le (K := ℝ)).2 hxQ
    push_cast at this ⊢
    rwa [SR_nat] at this
  have hB : 1 / 5 * SR + 1 ≤ SR / 4 := by linarith [SR_large]
  unfold FI.ofRat FI.Bd
  rw [← Hist.ratFloor_cast, ← Hist.ratCeil_cast]
  exact ⟨(abs_le_of_near hx (Int.sub_one_lt_floor _) ((Int.floor_le _).trans_lt (lt_add_one _))).trans hB,
    (abs_le_of_near hx ((sub_one_lt _).trans_le (Int.le_ceil _)) (Int.ceil_lt_add_one _)).trans hB⟩

lemma abs_min_le {a b B : ℝ} (ha : |a| ≤ B) (hb : |b| ≤ B) : |min a b| ≤ B := by
  rcases min_choice a b with h | h <;> rw [h] <;> assumption

lemma abs_max_le {a b B : ℝ} (ha : |a| ≤ B) (hb : |b| ≤ B) : |max a b| ≤ B := by
  rcases max_choice a b with h | h <;> rw [h] <;> assumption

lemma abs_mul_le {a b M N : ℝ} (ha : |a| ≤ M) (hb : |b| ≤ N) : |a * b| ≤ M * N := by
  rw [abs_mul]; exact mul_le_mul ha hb (abs_nonneg _) ((abs_nonneg _).trans ha)

lemma FI.Bd_mul {a b : FI} {M N : ℝ} (ha : FI.Bd a M) (hb : FI.Bd b N) :
    FI.Bd (FI.mul a b) (M * N / SR + 1) := by
  unfold FI.mul; simp only [imin_eq, imax_eq]
  constructor
  · apply abs_fdivP_le
    push_cast
    exact abs_min_le (abs_min_le (abs_mul_le ha.1 hb.1) (abs_mul_le ha.1 hb.2))
      (abs_min_le (abs_mul_le ha.2 hb.1) (abs_mul_le ha.2 hb.2))
  · apply abs_cdivP_le
    push_cast
    exact abs_max_le (abs_max_le (abs_mul_le ha.1 hb.1) (abs_mul_le ha.1 hb.2))
      (abs_max_le (abs_mul_le ha.2 hb.1) (abs_mul_le ha.2 hb.2))

lemma FI.Bd_sq {a : FI} {M : ℝ} (ha : FI.Bd a M) : FI.Bd (FI.sq a) (M * M / SR + 1) := by
  have hS := SR_pos
  have h0 : 0 ≤ M * M / SR + 1 := by
    have := mul_self_nonneg M
    positivity
  unfold FI.sq
  split_ifs
  · exact ⟨abs_fdivP_le _ (by push_cast; exact abs_mul_le ha.1 ha.1),
      abs_cdivP_le _ (by push_cast; exact abs_mul_le ha.2 ha.2)⟩
  · exact ⟨abs_fdivP_le _ (by push_cast; exact abs_mul_le ha.2 ha.2),
      abs_cdivP_le _ (by push_cast; exact abs_mul_le ha.1 ha.1)⟩
  · refine ⟨by simpa using h0, abs_cdivP_le _ ?_⟩
    rw [imax_eq]; push_cast
    exact abs_max_le (abs_mul_le ha.1 ha.1) (abs_mul_le ha.2 ha.2)

/-- floor division by a positive integer loses less than 1 -/
lemma fdiv_gt_real (x : ℤ) {d : ℤ} (hd : 0 < d) : (x : ℝ) / (d : ℝ) - 1 < ((Int.fdiv x d : ℤ) : ℝ) := by
  have h := neg_fdiv_neg_lt_real (-x) hd
  rw [neg_neg] at h
  push_cast at h
  rw [neg_div] at h
  linarith

/-- one step of the power bound: multiply `P + 3` by the bound `S/16 + 1` of `z²`, rescale, round -/
lemma pw_step {S P : ℝ} (hS : 1000000 ≤ S) (hP : 0 ≤ P) :
    (P + 3) * (S / 16 + 1) / S + 1 ≤ P * (1 / 8) + 3 := by
  rw [← le_sub_iff_add_le, div_le_iff₀ (by linarith)]
  linarith [mul_le_mul_of_nonneg_left (by linarith : (16 : ℝ) ≤ S) hP]

/-- magnitude of the running power in the `atanh` fold: it decays at least like `8^-j` -/
lemma atanhFoldF_pw_bd {z : FI} (hz : FI.Bd z (SR / 4)) (j : ℕ) :
    FI.Bd (atanhFoldF z j).2 (SR / 4 * (1 / 8) ^ j + 3) := by
  have hsq : FI.Bd (FI.sq z) (SR / 16 + 1) :=
    (FI.Bd_sq hz).mono (by rw [add_le_add_iff_right, div_le_iff₀ SR_pos]; exact le_of_eq (by ring))
  induction j with
  | zero => rw [atanhFoldF_zero]; exact hz.mono (by simp)
  | succ j ih =>
    rw [atanhFoldF_succ, pow_succ, ← mul_assoc]
    exact (FI.Bd_mul ih hsq).mono
      (pw_step SR_large (mul_nonneg (div_nonneg SR_pos.le (by norm_num)) (by positivity)))

lemma neg_le_div_of_abs_le {a d B : ℝ} (ha : |a| ≤ B) (hd : 1 ≤ d) : -B ≤ a / d := by
  have : |a / d| ≤ B := by
    rw [abs_div, abs_of_pos (show 0 < d by linarith)]
    exact (div_le_self (abs_nonneg a) hd).trans ha
  exact (abs_le.1 this).1

/-- lower bound on the running partial sum of the `atanh` fold -/
lemma atanhFoldF_s_lo {z : FI} (hz : FI.Bd z (SR / 4)) (j : ℕ) :
    -(SR * (4 / 7) * (1 - (1 / 8) ^ j) + 8 * j) ≤ (((atanhFoldF z j).1.lo : ℤ) : ℝ) := by
  induction j with
  | zero => rw [atanhFoldF_zero]; simp
  | succ j ih =>
    rw [atanhFoldF_succ]
    have hpw := (atanhFoldF_pw_bd hz j).1
    generalize atanhFoldF z j = r at ih hpw ⊢
    have e1 : (FI.add r.1 (FI.divNat (FI.mulInt r.2 2) (2 * j + 1))).lo
        = r.1.lo + Int.fdiv (r.2.lo * 2) ((2 * j + 1 : ℕ) : ℤ) := rfl
    have h1 := fdiv_gt_real (r.2.lo * 2) (d := ((2 * j + 1 : ℕ) : ℤ)) (Int.natCast_pos.2 (Nat.succ_pos _))
    have h2 := neg_le_div_of_abs_le (a := ((r.2.lo * 2 : ℤ) : ℝ)) (d := (((2 * j + 1 : ℕ) : ℤ) : ℝ))
      (B := 2 * (SR / 4 * (1 / 8) ^ j + 3))
      (by rw [Int.cast_mul, Int.cast_ofNat, abs_mul, abs_two, mul_comm]
          exact mul_le_mul_of_nonneg_left hpw zero_le_two)
      (by push_cast; linarith [(Nat.cast_nonneg j : (0:ℝ) ≤ j)])
    rw [e1, pow_succ]
    push_cast at h1 h2 ⊢
    linarith only [ih, h1, h2]

lemma atanh2F_lo_ge {z : FI} (hz : FI.Bd z (SR / 4)) :
    -(58 / 100 * SR) ≤ (((atanh2F z).lo : ℤ) : ℝ) := by
  rw [atanh2F_eq]
  have hs := atanhFoldF_s_lo hz 46
  have hp := (atanhFoldF_pw_bd hz 46).mono (N := SR / 400 + 3) (by
    have : ((1 : ℝ) / 8) ^ 46 ≤ 1 / 100 := by norm_num
    linarith [mul_le_mul_of_nonneg_left this (div_nonneg SR_pos.le (by norm_num : (0:ℝ) ≤ 4))])
  have hL := SR_large
  generalize atanhFoldF z 46 = r at hs hp ⊢
  have hpa : ((FI.imax (-r.2.lo) r.2.hi : ℤ) : ℝ) ≤ SR / 400 + 3 := by
    rw [imax_eq]; push_cast
    exact max_le ((neg_le_abs _).trans hp.1) ((le_abs_self _).trans hp.2)
  generalize FI.imax (-r.2.lo) r.2.hi = pa at hpa ⊢
  have hrem := neg_fdiv_neg_lt_real (pa * 9) (d := 372) (by norm_num)
  have hd : (4 * ((2 * 45 + 3 : ℕ) : ℤ)) = 372 := by norm_num
  rw [hd]
  unfold FI.widen
  have h0 : (0:ℝ) ≤ (1/8)^46 := by positivity
  push_cast at hrem hs ⊢
  linarith only [mul_nonneg SR_pos.le h0, hrem, hs, hpa, hL]

/-- `atanh2 z` is not below `-0.58` when `|z| ≤ 1/5` (a crude but width-free bound). -/
lemma atanh2_lo_ge (z : ℚ) (hz : |z| ≤ 1 / 5) : -(58 / 100 : ℚ) ≤ (atanh2 z).lo := by
  have h := atanh2F_lo_ge (ofRat_Bd z hz)
  rw [← neg_mul, ← le_div_iff₀ SR_pos] at h
  apply (Rat.cast_le (K := ℝ)).mp
  unfold atanh2 FI.toI
  unfold SR at h
  push_cast at h ⊢
  exact h

lemma ln2_lo_ge : (69 / 100 : ℚ) ≤ ln2.lo ∧ ln2.lo ≤ ln2.hi := by decide +kernel

lemma inv_scaleN_le : 1 / (scaleN : ℚ) ≤ 1 / 100 :=
  one_div_le_one_div_of_le (by norm_num) (by exact_mod_cast (by decide : (100 : ℕ) ≤ scaleN))

/-- rounding down to the grid loses less than `1/100` -/
lemma sub_le_rdn (q : ℚ) : q - 1 / 100 ≤ rdn q := by
  linarith [lt_rdn_add q, inv_scaleN_le]

lemma scale_ln2_lo_ge (e : ℤ) (he : 1 ≤ e) : (68 / 100 : ℚ) ≤ (scale (e : ℚ) ln2).lo := by
  obtain ⟨h1, h2⟩ := ln2_lo_ge
  have heQ : (1 : ℚ) ≤ (e : ℚ) := by exact_mod_cast he
  have p1 : (69 / 100 : ℚ) ≤ (e : ℚ) * ln2.lo :=
    h1.trans (le_mul_of_one_le_left (le_trans (by norm_num) h1) heQ)
  have p2 : (e : ℚ) * ln2.lo ≤ (e : ℚ) * ln2.hi := mul_le_mul_of_nonneg_left h2 (by linarith)
  unfold scale mul mk' ofRat
  simp only [ratMin_eq, min_self, min_eq_left p2]
  exact le_trans (by linarith) (sub_le_rdn _)

lemma logCore_lo_pos (m : ℚ) (e : ℤ) (h1 : 2 / 3 ≤ m) (h2 : m ≤ 3 / 2) (he : 1 ≤ e) :
    0 < (logCore m e).lo := by
  have hm1 : 0 < m + 1 := by linarith
  have hz : |(m - 1) / (m + 1)| ≤ 1 / 5 :=
    abs_le.2 ⟨by rw [le_div_iff₀ hm1]; linarith, by rw [div_le_iff₀ hm1]; linarith⟩
  exact lt_of_lt_of_le (by linarith [atanh2_lo_ge _ hz, scale_ln2_lo_ge e he]) (sub_le_rdn _)

/-- The enclosure of `log q` computed by `logQ` is strictly positive for every rational `q ≥ 2`. -/
theorem logQ_lo_pos (q : ℚ) (hq : 2 ≤ q) : 0 < (logQ q).lo := by
  have hq0 : 0 < q := by linarith
  obtain ⟨h1, h2⟩ := ilog2_spec q hq0
  rw [logQ_eq q hq0]
  rw [pow2_eq] at h1 h2
  simp only [pow2_eq]
  generalize ilog2 q = e0 at h1 h2 ⊢
  have he0 : 1 ≤ e0 := by
    have := (zpow_lt_zpow_iff_right₀ (one_lt_two (α := ℚ))).1
      (show (2 : ℚ) ^ (1 : ℤ) < 2 ^ (e0 + 1) by rw [zpow_one]; exact hq.trans_lt h2)
    omega
  have hp : (0 : ℚ) < 2 ^ e0 := by positivity
  rw [zpow_add_one₀ two_ne_zero] at h2
  have hm1 : 1 ≤ q / 2 ^ e0 := by rw [le_div_iff₀ hp]; linarith
  have hm2 : q / 2 ^ e0 < 2 := by rw [div_lt_iff₀ hp]; linarith
  generalize q / 2 ^ e0 = t at hm1 hm2 ⊢
  split_ifs with h
  · exact logCore_lo_pos _ _ (by linarith) (by linarith) (by omega)
  · exact logCore_lo_pos _ _ (by linarith) (by linarith [not_lt.mp h]) he0

example : 0 < (logQ 10).lo := logQ_lo_pos 10 (by norm_num)

end MV.I

namespace MV.Hist

open MV

/-- The driver's enclosure of `m·log_b x` (the local `pos` of `handleLog`). -/
def posI (b : ℕ) (m x : ℚ) : I := I.div (I.scale m (I.logQ x)) (I.logQ (b : ℚ))

/-- The driver's float tolerance around an enclosure `p` (the local `d` of `candsOf`). -/
def judgeTol (p : I) : ℚ := 16 * pow2 (-52) * (ratMax (ratAbs p.lo) (ratAbs p.hi) + 1)

lemma judgeTol_nonneg (p : I) : 0 ≤ judgeTol p := by
  unfold judgeTol
  rw [I.pow2_eq, I.ratMax_eq, I.ratAbs_eq, I.ratAbs_eq]
  have : (0 : ℚ) ≤ max |p.lo| |p.hi| := le_max_of_le_left (abs_nonneg _)
  positivity

/-- For rational `m`, `x > 0` and a base `b`, the enclosure `posI b m x = (m · logQ x) / logQ b`
contains `m·log_b x`, provided the enclosure of `log b` is strictly positive (the side condition of
interval division; `I.logQ_lo_pos` discharges it for `b ≥ 2`). -/
theorem pos_sound_of_pos (b : ℕ) (m x : ℚ) (hx : 0 < x) (hb : 0 < (b : ℚ))
    (hlb : 0 < (I.logQ (b : ℚ)).lo) :
    I.Mem ((m : ℝ) * Real.logb b (x : ℝ)) (I.div (I.scale m (I.logQ x)) (I.logQ (b : ℚ))) := by
  have h := I.div_sound (I.scale_sound m (I.logQ_sound x hx)) (I.logQ_sound (b : ℚ) hb)
    (Or.inl hlb)
  rwa [Rat.cast_natCast, mul_div_assoc] at h

/-- For every rational `m` (of either sign), rational `x > 0` and natural base `b ≥ 2`, the
driver's enclosure `posI b m x` contains the real number `m·log_b x`. -/
theorem pos_sound (b : ℕ) (hb : 2 ≤ b) (m x : ℚ) (hx : 0 < x) :
    I.Mem ((m : ℝ) * Real.logb b (x : ℝ)) (I.div (I.scale m (I.logQ x)) (I.logQ (b : ℚ))) :=
  have hbQ : (2 : ℚ) ≤ (b : ℚ) := by exact_mod_cast hb
  pos_sound_of_pos b m x hx (by linarith) (I.logQ_lo_pos _ hbQ)

/-- The true bin index of a rational sample `x > 0` lies between the two end candidates computed
from the driver's own enclosure and tolerance (so, by `candsRange_sound`, it is in the driver's
list), and it is one of the two whenever the widened enclosure is shorter than one bin. -/
theorem judge_sound (b : ℕ) (hb : 2 ≤ b) (m x : ℚ) (hx : 0 < x) :
    ((posI b m x).lo - judgeTol (posI b m x)).floor ≤ logBinR b m x ∧
    logBinR b m x ≤ ((posI b m x).hi + judgeTol (posI b m x)).floor ∧
    (((posI b m x).hi + judgeTol (posI b m x)) - ((posI b m x).lo - judgeTol (posI b m x)) < 1 →
      logBinR b m x ∈ candsList (posI b m x) (judgeTol (posI b m x))) := by
  have hp := pos_sound b hb m x hx
  have hd := judgeTol_nonneg (posI b m x)
  obtain ⟨h1, h2⟩ := cands_sound b m x (posI b m x) _ hd hp
  exact ⟨h1, h2, fun hw => cands_list_sound b m x (posI b m x) _ hd hp hw⟩

/-- The driver's enclosure of `BinToValue(v) = b^(v/m)`, `exp ((v/m) · logQ b)`, contains the real
value, for every natural base `b ≥ 1` and rationals `m`, `v`. -/
theorem b2v_sound (b : ℕ) (hb : 0 < b) (m v : ℚ) :
    I.Mem (logBinToValueR b m v) (I.exp (I.mul (I.ofRat (v / m)) (I.logQ (b : ℚ)))) := by
  have hbQ : (0 : ℚ) < (b : ℚ) := by exact_mod_cast hb
  have hbR : (0 : ℝ) < (b : ℝ) := by exact_mod_cast hb
  have h := I.exp_sound _ _ (I.mul_sound (I.ofRat_sound (v / m)) (I.logQ_sound _ hbQ))
  have e : logBinToValueR b m v
      = Real.exp (((v / m : ℚ) : ℝ) * Real.log (((b : ℚ)) : ℝ)) := by
    unfold logBinToValueR
    rw [Real.rpow_def_of_pos hbR, Rat.cast_natCast, mul_comm]
    push_cast
    rfl
  rw [e]
  exact h

/-! ## Examples -/

lemma binToValue_pow (b k i : ℕ) (hk : 0 < k) :
    (logBinToValueR b (k : ℝ) (i : ℝ)) ^ k = (b : ℝ) ^ i := by
  have hkR : (k : ℝ) ≠ 0 := by exact_mod_cast hk.ne'
  unfold logBinToValueR
  rw [← Real.rpow_natCast, ← Real.rpow_mul (Nat.cast_nonneg b), div_mul_cancel₀ _ hkR,
    Real.rpow_natCast]

lemma binToValue_le_of_pow (b k i : ℕ) (hk : 0 < k) (hb : 2 ≤ b) {x : ℝ} (hx : 0 ≤ x)
    (h : (b : ℝ) ^ i ≤ x ^ k) : logBinToValueR b (k : ℝ) (i : ℝ) ≤ x := by
  rw [← binToValue_pow b k i hk] at h
  exact (pow_le_pow_iff_left₀ (zero_lt_logBinToValue hb _ _).le hx hk.ne').1 h

lemma lt_binToValue_of_pow (b k i : ℕ) (hk : 0 < k) (hb : 2 ≤ b) {x : ℝ} (hx : 0 ≤ x)
    (h : x ^ k < (b : ℝ) ^ i) : x < logBinToValueR b (k : ℝ) (i : ℝ) := by
  rw [← binToValue_pow b k i hk] at h
  exact (pow_lt_pow_iff_left₀ hx (zero_lt_logBinToValue hb _ _).le hk.ne').1 h

/-- base 10, 3 bins per decade: 250 lies in bin 7 = [10^(7/3), 10^(8/3)) ≈ [215.4, 464.2),
since `10^7 ≤ 250^3 < 10^8`. -/
lemma logBin_250 : logBinR 10 3 250 = 7 := by
  rw [logBin_iff (by norm_num) (by norm_num) (by norm_num)]
  constructor
  · have := binToValue_le_of_pow 10 3 7 (by norm_num) (by norm_num) (x := 250) (by norm_num)
      (by norm_num)
    norm_num at this ⊢
    exact this
  · have := lt_binToValue_of_pow 10 3 8 (by norm_num) (by norm_num) (x := 250) (by norm_num)
      (by norm_num)
    norm_num at this ⊢
    exact this

/-- hence `3·log₁₀ 250 ∈ [7, 8)` -/
lemma logb_250 : (7 : ℝ) ≤ 3 * Real.logb (10 : ℕ) 250 ∧ 3 * Real.logb (10 : ℕ) 250 < 8 := by
  have h := Int.floor_eq_iff.1 logBin_250
  norm_num at h
  exact h

example : logBinR 10 3 250 = 7 := logBin_250

example : logBinToValueR 10 3 (7 : ℤ) ≤ 250 ∧ (250 : ℝ) < logBinToValueR 10 3 ((7 : ℤ) + 1) :=
  (logBin_iff (b := 10) (m := 3) (x := 250) (by norm_num) (by norm_num) (by norm_num) 7).1 logBin_250

example : logBinToValueR 10 3 (3 / 2) < logBinToValueR 10 3 (7 / 4) :=
  (logBinToValue_strictMono (b := 10) (m := 3) (by norm_num) (by norm_num)).1 (by norm_num)

example : logBinToValueR 10 3 (3 * (2 : ℕ)) = 10 ^ 2 :=
  (logBinToValue_strictMono (b := 10) (m := 3) (by norm_num) (by norm_num)).2.2 2

example : (3 : ℝ) * Real.logb (10 : ℕ) (logBinToValueR 10 3 (22 / 3)) = 22 / 3 :=
  logBinToValue_logBin_inverse (b := 10) (m := 3) (by norm_num) (by norm_num) _

example : logBinR 10 3 2 ≤ logBinR 10 3 250 :=
  logBin_mono (by norm_num) (by norm_num) (by norm_num) (by norm_num)

example : logBinR 10 3 (1 / 2) < 0 :=
  (logBin_under_iff (by norm_num) (by norm_num) (by norm_num)).2 (by norm_num)

/-- with 6 bins (max = 100 = 10^(6/3)) the sample 250 is an overflow -/
example : ((6 : ℕ) : ℤ) ≤ logBinR 10 3 250 := by
  rw [logBin_250]; decide

example : slotOf 6 (logBinR 10 3 (1 / 2)) = .under :=
  ((logSlot_iff (by norm_num) (by norm_num) (by norm_num) 6).1).2 (by norm_num)

example : (logRunR 10 3 6 [1 / 2, 2, 250, 1000, 7]).total = 5 := logRun_total _ _ _ _
example : (logRunR 10 3 6 [1 / 2, 2, 250, 1000, 7]).bins.length = 6 := logRun_bins_length _ _ _ _

example : ((classRun (fun x : ℤ => x) 3 [-1, 0, 2, 5, 1] (Counts.mk 2 [1, 0, 3] 4)).total) = 10 + 5 :=
  (classRun_total _ 3 _ _ rfl).1

/-- the interval `[7, 8]` contains `3·log₁₀ 250`; with tolerance `1/4` the candidates are 6 and 8 -/
example : ((7 : ℚ) - 1 / 4).floor ≤ logBinR 10 3 250 ∧ logBinR 10 3 250 ≤ ((8 : ℚ) + 1 / 4).floor :=
  cands_sound 10 3 250 ⟨7, 8⟩ (1 / 4) (by norm_num)
    ⟨by simpa using logb_250.1, by simpa using logb_250.2.le⟩

example : I.Mem (((3 : ℚ) : ℝ) * Real.logb (10 : ℕ) ((250 : ℚ) : ℝ))
    (I.div (I.scale 3 (I.logQ 250)) (I.logQ ((10 : ℕ) : ℚ))) :=
  pos_sound 10 (by norm_num) 3 250 (by norm_num)

/-- the driver's own computation for b = 10, m = 3, x = 250 yields the single candidate 7 -/
lemma cands_250 : candsList (posI 10 3 250) (judgeTol (posI 10 3 250)) = [7] := by
  decide +kernel

lemma width_250 : ((posI 10 3 250).hi + judgeTol (posI 10 3 250)) -
    ((posI 10 3 250).lo - judgeTol (posI 10 3 250)) < 1 := by
  decide +kernel

/-- End to end: the judge's machinery alone determines the real-specification bin of 250. -/
example : logBinR 10 ((3 : ℚ) : ℝ) ((250 : ℚ) : ℝ) = 7 := by
  have h := (judge_sound 10 (by norm_num) 3 250 (by norm_num)).2.2 width_250
  rw [cands_250] at h
  simpa using h

example : I.Mem (logBinToValueR 10 ((3 : ℚ) : ℝ) ((7 : ℚ) : ℝ))
    (I.exp (I.mul (I.ofRat (7 / 3)) (I.logQ ((10 : ℕ) : ℚ)))) :=
  b2v_sound 10 (by norm_num) 3 7

example : (((13 : ℚ) / 2 - 1 / 4).ceil : ℤ) ≤ ⌈(3 : ℝ) * Real.logb (10 : ℕ) 250⌉ :=
  (nbins_sound 10 3 250 ⟨13 / 2, 8⟩ (1 / 4) (by norm_num)
    ⟨by have h := logb_250.1; push_cast at h ⊢; linarith,
      by simpa using logb_250.2.le⟩).1

example : (7 : ℤ) ≤ logBinR 10 3 250 := logBin_250.ge

example : logBinR 10 3 250 < (8 : ℤ) := by
  rw [logBin_250]; decide

example : logBinToValueR 10 3 (3 * Real.logb (10 : ℕ) 250) = 250 :=
  logBinToValue_pos_inverse (b := 10) (m := 3) (by norm_num) (by norm_num) (by norm_num)

example : (logRunFromR 10 3 3 [1 / 2, 2, 250] (Counts.mk 2 [1, 0, 3] 4)).total = 10 + 3 :=
  (logRunFrom_total 10 3 3 _ (Counts.mk 2 [1, 0, 3] 4) rfl).1

example : I.Mem (((3 : ℚ) : ℝ) * Real.logb (2 : ℕ) ((5 : ℚ) : ℝ))
    (I.div (I.scale 3 (I.logQ 5)) (I.logQ ((2 : ℕ) : ℚ))) :=
  pos_sound_of_pos 2 3 5 (by norm_num) (by norm_num) (I.logQ_lo_pos _ (by norm_num))

/-- `cands_list_sound` on a hand-made enclosure: `[7, 15/2]` contains `3·log₁₀ 250 ≈ 7.19`
(`250² ≤ 10⁵`), tolerance `1/8`: the list is `[6, 7]` and the true bin 7 is in it. -/
example : logBinR 10 3 250 ∈ candsList ⟨7, 15 / 2⟩ (1 / 8) := by
  have h5 : logBinR 10 2 250 < (5 : ℤ) := by
    rw [logBin_lt_iff (by norm_num) (by norm_num) (by norm_num)]
    have := lt_binToValue_of_pow 10 2 5 (by norm_num) (by norm_num) (x := 250) (by norm_num)
      (by norm_num)
    norm_num at this ⊢
    exact this
  have hhi : (3 : ℝ) * Real.logb (10 : ℕ) 250 ≤ 15 / 2 := by
    have := Int.floor_lt.1 h5
    push_cast at this
    linarith
  exact cands_list_sound 10 3 250 ⟨7, 15 / 2⟩ (1 / 8) (by norm_num)
    ⟨by simpa using logb_250.1, by simpa using hhi⟩ (by norm_num)

end MV.Hist
