import Mathlib.Tactic
import MV.Model.InvCDF
/-!
# C07 — inverse CDF: piecewise CDF, its quantile function, bracketing and bisection

All results are about the exact-rational executable model in `MV/Model/InvCDF.lean`.
-/
namespace MV.InvCDF

lemma wf_cons2 {k k2 : Knot} {rest : PW} :
    wf (k :: k2 :: rest) = true ↔
      k.l ≤ k.r ∧ k.r ≤ k2.l ∧ k.x < k2.x ∧ wf (k2 :: rest) = true := by
  simp [wf, and_assoc]

lemma wf_single {k : Knot} : wf [k] = true ↔ k.l ≤ k.r ∧ k.r = 1 := by
  simp [wf]

lemma wf_ne_nil {p : PW} (h : wf p = true) : p ≠ [] := by
  rintro rfl; simp [wf] at h

lemma wf_head_le {k : Knot} {rest : PW} (h : wf (k :: rest) = true) : k.l ≤ k.r := by
  cases rest with
  | nil => exact (wf_single.1 h).1
  | cons k2 rest => exact (wf_cons2.1 h).1

lemma wfTop_iff {p : PW} :
    wfTop p = true ↔ ∃ k rest, p = k :: rest ∧ wf p = true ∧ k.l = 0 := by
  cases p with
  | nil => simp [wfTop, wf]
  | cons k rest => simp [wfTop]

lemma wfTop_wf {p : PW} (h : wfTop p = true) : wf p = true := by
  obtain ⟨k, rest, rfl, h1, -⟩ := wfTop_iff.1 h
  exact h1

lemma cdf_single (k : Knot) (x : Rat) : cdf [k] x = if x < k.x then k.l else k.r := by
  simp [cdf]

lemma cdf_cons2 (k k2 : Knot) (rest : PW) (x : Rat) :
    cdf (k :: k2 :: rest) x =
      if x < k.x then k.l
      else if x < k2.x then k.r + (x - k.x) * (k2.l - k.r) / (k2.x - k.x)
      else cdf (k2 :: rest) x := by
  simp [cdf]

lemma quantile_single (k : Knot) (y : Rat) :
    quantile [k] y = if k.r ≥ y then some k.x else none := by
  simp [quantile]

lemma quantile_cons2 (k k2 : Knot) (rest : PW) (y : Rat) :
    quantile (k :: k2 :: rest) y =
      if k.r ≥ y then some k.x
      else if k2.l ≥ y then some (k.x + (y - k.r) * (k2.x - k.x) / (k2.l - k.r))
      else quantile (k2 :: rest) y := by
  simp [quantile]

/-! ## Linear interpolation arithmetic -/

lemma interp_bounds {a b x0 x1 x : ℚ} (hab : a ≤ b) (hx : x0 < x1) (h0 : x0 ≤ x) (h1 : x ≤ x1) :
    a ≤ a + (x - x0) * (b - a) / (x1 - x0) ∧ a + (x - x0) * (b - a) / (x1 - x0) ≤ b := by
  have hd : 0 < x1 - x0 := sub_pos.2 hx
  have hba : 0 ≤ b - a := sub_nonneg.2 hab
  refine ⟨le_add_of_nonneg_right (div_nonneg (mul_nonneg (sub_nonneg.2 h0) hba) hd.le),
    le_sub_iff_add_le'.1 ?_⟩
  rw [div_le_iff₀ hd, mul_comm (b - a)]
  exact mul_le_mul_of_nonneg_right (sub_le_sub_right h1 x0) hba

lemma interp_mono {a b x0 x1 x x' : ℚ} (hab : a ≤ b) (hx : x0 < x1) (h : x ≤ x') :
    a + (x - x0) * (b - a) / (x1 - x0) ≤ a + (x' - x0) * (b - a) / (x1 - x0) := by
  have hd : 0 < x1 - x0 := sub_pos.2 hx
  exact add_le_add_right (div_le_div_of_nonneg_right
    (mul_le_mul_of_nonneg_right (sub_le_sub_right h x0) (sub_nonneg.2 hab)) hd.le) a

/-- On a ramp from `(x0, a)` to `(x1, b)` the point where the level `y ∈ (a, b]` is reached lies in
`(x0, x1]`, the ramp takes the value `y` there and smaller values to its left. -/
lemma interp_inv {a b x0 x1 y : ℚ} (hx : x0 < x1) (ha : a < y) (hb : y ≤ b) :
    x0 < x0 + (y - a) * (x1 - x0) / (b - a) ∧
    x0 + (y - a) * (x1 - x0) / (b - a) ≤ x1 ∧
    a + ((x0 + (y - a) * (x1 - x0) / (b - a)) - x0) * (b - a) / (x1 - x0) = y ∧
    ∀ x, x < x0 + (y - a) * (x1 - x0) / (b - a) → a + (x - x0) * (b - a) / (x1 - x0) < y := by
  have hd : 0 < x1 - x0 := sub_pos.2 hx
  have hl : 0 < b - a := by linarith
  have hya : 0 < y - a := sub_pos.2 ha
  refine ⟨?_, ?_, ?_, ?_⟩
  · exact lt_add_of_pos_right _ (div_pos (mul_pos hya hd) hl)
  · rw [← le_sub_iff_add_le', div_le_iff₀ hl, mul_comm (x1 - x0)]
    exact mul_le_mul_of_nonneg_right (sub_le_sub_right hb a) hd.le
  · rw [add_sub_cancel_left, div_mul_cancel₀ _ hl.ne', mul_div_cancel_right₀ _ hd.ne',
      add_sub_cancel]
  · intro x hxq
    rw [← sub_lt_iff_lt_add', lt_div_iff₀ hl] at hxq
    rw [← lt_sub_iff_add_lt', div_lt_iff₀ hd]
    exact hxq

/-! ## Concrete test data for the examples -/

/-- A CDF with a jump at `0` (to `1/4`), a ramp to `1/2` on `[0,1]`, a flat piece on `[1,2]`, a jump
at `2` (to `3/4`) and a ramp to `1` on `[2,3]`. -/
def pwEx : PW := [⟨0, 0, 1/4⟩, ⟨1, 1/2, 1/2⟩, ⟨2, 1/2, 3/4⟩, ⟨3, 1, 1⟩]

/-- Well-formed, but the first left limit is `1/8`, not `0` (so `wf` holds and `wfTop` does not). -/
def pwEx' : PW := [⟨0, 1/8, 1/4⟩, ⟨3, 1, 1⟩]

example : wfTop pwEx = true := by decide +kernel
example : wf pwEx' = true ∧ wfTop pwEx' = false := by decide +kernel
example : cdf pwEx (1/2) = 3/8 ∧ cdf pwEx (3/2) = 1/2 ∧ cdf pwEx 2 = 3/4 ∧ cdf pwEx (5/2) = 7/8 := by
  decide +kernel

/-! ## I1: the piecewise function is a CDF -/

lemma cdf_bounds (k : Knot) (rest : PW) (h : wf (k :: rest) = true) (x : Rat) :
    k.l ≤ cdf (k :: rest) x ∧ cdf (k :: rest) x ≤ 1 ∧ (k.x ≤ x → k.r ≤ cdf (k :: rest) x) := by
  induction rest generalizing k with
  | nil =>
    obtain ⟨h1, h2⟩ := wf_single.1 h
    rw [cdf_single]
    split_ifs with hx
    · exact ⟨le_rfl, h2 ▸ h1, fun h' => absurd hx (not_lt.2 h')⟩
    · exact ⟨h1, h2.le, fun _ => le_rfl⟩
  | cons k2 rest ih =>
    obtain ⟨h1, h2, h3, h4⟩ := wf_cons2.1 h
    obtain ⟨i1, i2, -⟩ := ih k2 h4
    rw [cdf_cons2]
    split_ifs with hx hx2
    · exact ⟨le_rfl, (h1.trans h2).trans (i1.trans i2), fun h' => absurd hx (not_lt.2 h')⟩
    · obtain ⟨b1, b2⟩ := interp_bounds h2 h3 (not_lt.1 hx) hx2.le
      exact ⟨h1.trans b1, b2.trans (i1.trans i2), fun _ => b1⟩
    · exact ⟨(h1.trans h2).trans i1, i2, fun _ => h2.trans i1⟩

lemma cdf_mono_cons (k : Knot) (rest : PW) (h : wf (k :: rest) = true) :
    Monotone (cdf (k :: rest)) := by
  induction rest generalizing k with
  | nil =>
    obtain ⟨h1, h2⟩ := wf_single.1 h
    intro x x' hxx
    simp only [cdf_single]
    split_ifs with hx hx' hx'
    · exact le_rfl
    · exact h1
    · exact absurd (lt_of_le_of_lt hxx hx') hx
    · exact le_rfl
  | cons k2 rest ih =>
    obtain ⟨h1, h2, h3, h4⟩ := wf_cons2.1 h
    intro x x' hxx
    have hb := cdf_bounds k (k2 :: rest) h x'
    have hb2 := cdf_bounds k2 rest h4 x'
    have hk2 := wf_head_le h4
    show cdf (k :: k2 :: rest) x ≤ cdf (k :: k2 :: rest) x'
    rw [cdf_cons2 k k2 rest x]
    split_ifs with hx hx2
    · exact hb.1
    · rw [cdf_cons2 k k2 rest x']
      have hx' : ¬ x' < k.x := fun hh => hx (lt_of_le_of_lt hxx hh)
      rw [if_neg hx']
      split_ifs with hx2'
      · exact interp_mono h2 h3 hxx
      · obtain ⟨_, b2⟩ := interp_bounds h2 h3 (not_lt.1 hx) hx2.le
        linarith [hb2.1]
    · have hx' : ¬ x' < k.x := fun hh => hx (lt_of_le_of_lt hxx hh)
      have hx2' : ¬ x' < k2.x := fun hh => hx2 (lt_of_le_of_lt hxx hh)
      rw [cdf_cons2 k k2 rest x', if_neg hx', if_neg hx2']
      exact ih k2 h4 hxx

/-- **I1 (monotone).** A well-formed piecewise CDF is a monotone (non-decreasing) function. -/
theorem cdf_mono (p : PW) (hwf : wf p = true) : Monotone (cdf p) := by
  cases p with
  | nil => exact absurd rfl (wf_ne_nil hwf)
  | cons k rest => exact cdf_mono_cons k rest hwf

example : cdf pwEx (1/2) ≤ cdf pwEx (5/2) := cdf_mono pwEx (by decide +kernel) (by norm_num)

/-- **I1 (range).** For a well-formed `p`, every value of `cdf p` lies between the left limit `l` of
the first knot and `1`. -/
theorem cdf_range (p : PW) (hwf : wf p = true) (x : Rat) :
    (p.head (wf_ne_nil hwf)).l ≤ cdf p x ∧ cdf p x ≤ 1 := by
  cases p with
  | nil => exact absurd rfl (wf_ne_nil hwf)
  | cons k rest =>
    obtain ⟨a, b, -⟩ := cdf_bounds k rest hwf x
    exact ⟨a, b⟩

example : (1/8 : Rat) ≤ cdf pwEx' 2 ∧ cdf pwEx' 2 ≤ 1 := cdf_range pwEx' (by decide +kernel) 2

/-- **I1 (range, top-level).** For `wfTop p` (first left limit `0`), `0 ≤ cdf p x ≤ 1` for all `x`. -/
theorem cdf_range_top (p : PW) (hwf : wfTop p = true) (x : Rat) :
    0 ≤ cdf p x ∧ cdf p x ≤ 1 := by
  obtain ⟨k, rest, rfl, h1, h0⟩ := wfTop_iff.1 hwf
  obtain ⟨a, b, -⟩ := cdf_bounds k rest h1 x
  exact ⟨h0 ▸ a, b⟩

example : 0 ≤ cdf pwEx (5/2) ∧ cdf pwEx (5/2) ≤ 1 := cdf_range_top pwEx (by decide +kernel) (5/2)

/-- **I1 (left tail).** Strictly before the first knot the value is the first knot's left limit `l`
(which is `0` under `wfTop`).  Needs only `p ≠ []`. -/
theorem cdf_before (p : PW) (hne : p ≠ []) (x : Rat) (hx : x < (p.head hne).x) :
    cdf p x = (p.head hne).l := by
  match p, hne, hx with
  | [k], _, hx => simpa [cdf_single] using fun h => absurd hx (not_lt.2 h)
  | k :: k2 :: rest, _, hx =>
    rw [cdf_cons2]
    simp only [List.head_cons] at hx
    simp [hx]

/-- Under `wfTop`, the CDF is `0` strictly before the first knot. -/
theorem cdf_before_top (p : PW) (hwf : wfTop p = true) (x : Rat)
    (hx : x < (p.head (wf_ne_nil (wfTop_wf hwf))).x) : cdf p x = 0 := by
  rw [cdf_before p _ x hx]
  obtain ⟨k, rest, rfl, -, h0⟩ := wfTop_iff.1 hwf
  simpa using h0

example : cdf pwEx' (-1) = 1/8 := cdf_before pwEx' (by decide) (-1) (by norm_num [pwEx'])
example : cdf pwEx (-1) = 0 := cdf_before_top pwEx (by decide +kernel) (-1) (by norm_num [pwEx])

lemma wf_head_x_le (k : Knot) (rest : PW) (h : wf (k :: rest) = true) :
    ∀ k' ∈ k :: rest, k.x ≤ k'.x := by
  induction rest generalizing k with
  | nil => intro k' hk'; simp at hk'; subst hk'; exact le_rfl
  | cons k2 rest ih =>
    obtain ⟨-, -, h3, h4⟩ := wf_cons2.1 h
    intro k' hk'
    rcases List.mem_cons.1 hk' with rfl | hk'
    · exact le_rfl
    · exact h3.le.trans (ih k2 h4 k' hk')

lemma wf_head_x_lt (k k2 : Knot) (rest : PW) (h : wf (k :: k2 :: rest) = true) :
    ∀ k' ∈ k2 :: rest, k.x < k'.x := by
  obtain ⟨-, -, h3, h4⟩ := wf_cons2.1 h
  intro k' hk'
  exact lt_of_lt_of_le h3 (wf_head_x_le k2 rest h4 k' hk')

/-- **I1 (value at a knot / right-continuity).** For a well-formed `p`, the value of `cdf p` at the
position of any knot `k ∈ p` is that knot's `r` (the right-hand value, not the left limit `l`). -/
theorem cdf_at_knot (p : PW) (hwf : wf p = true) (k : Knot) (hk : k ∈ p) : cdf p k.x = k.r := by
  induction p with
  | nil => simp at hk
  | cons k0 rest ih =>
    cases rest with
    | nil =>
      simp at hk; subst hk
      simp [cdf_single]
    | cons k2 rest =>
      obtain ⟨-, -, h3, h4⟩ := wf_cons2.1 hwf
      rcases List.mem_cons.1 hk with rfl | hk'
      · rw [cdf_cons2]; simp [h3]
      · have hlt := wf_head_x_lt k0 k2 rest hwf k hk'
        have hle := wf_head_x_le k2 rest h4 k hk'
        rw [cdf_cons2, if_neg (not_lt.2 hlt.le), if_neg (not_lt.2 hle)]
        exact ih h4 hk'

/-- At the jump at `2` the value is the right-hand value `3/4`, not the left limit `1/2`. -/
example : cdf pwEx 2 = 3/4 :=
  cdf_at_knot pwEx (by decide +kernel) ⟨2, 1/2, 3/4⟩ (by simp [pwEx])

/-- **I1 (right tail).** For a well-formed `p`, from the last knot on the value is `1`. -/
theorem cdf_after (p : PW) (hwf : wf p = true) (x : Rat)
    (hx : (p.getLast (wf_ne_nil hwf)).x ≤ x) : cdf p x = 1 := by
  induction p with
  | nil => exact absurd rfl (wf_ne_nil hwf)
  | cons k0 rest ih =>
    cases rest with
    | nil =>
      obtain ⟨-, h2⟩ := wf_single.1 hwf
      simp only [List.getLast_singleton] at hx
      rw [cdf_single, if_neg (not_lt.2 hx), h2]
    | cons k2 rest =>
      obtain ⟨-, -, h3, h4⟩ := wf_cons2.1 hwf
      have hlast : (k0 :: k2 :: rest).getLast (wf_ne_nil hwf) =
          (k2 :: rest).getLast (wf_ne_nil h4) := by simp
      rw [hlast] at hx
      have hle := wf_head_x_le k2 rest h4 _ (List.getLast_mem (wf_ne_nil h4))
      rw [cdf_cons2, if_neg (not_lt.2 (by linarith)), if_neg (not_lt.2 (by linarith))]
      exact ih h4 hx

example : cdf pwEx 7 = 1 := cdf_after pwEx (by decide +kernel) 7 (by norm_num [pwEx])

/-- **I1 (right-continuity proper).** For a well-formed `p` and every `x` there is a `δ > 0` such
that on `[x, x + δ)` the function `cdf p` is affine: `cdf p x' = cdf p x + s * (x' - x)` for a fixed
slope `s ≥ 0`.  In particular `cdf p` is right-continuous at every point. -/
theorem cdf_right_affine (p : PW) (hwf : wf p = true) (x : Rat) :
    ∃ δ s : Rat, 0 < δ ∧ 0 ≤ s ∧ ∀ x', x ≤ x' → x' < x + δ → cdf p x' = cdf p x + s * (x' - x) := by
  induction p with
  | nil => exact absurd rfl (wf_ne_nil hwf)
  | cons k0 rest ih =>
    by_cases hx : x < k0.x
    · -- constant up to the first knot
      refine ⟨k0.x - x, 0, sub_pos.2 hx, le_rfl, fun x' _ h2 => ?_⟩
      rw [add_sub_cancel] at h2
      rw [cdf_before _ (List.cons_ne_nil _ _) x hx, cdf_before _ (List.cons_ne_nil _ _) x' h2,
        zero_mul, add_zero]
    cases rest with
    | nil =>
      refine ⟨1, 0, one_pos, le_rfl, fun x' h1 _ => ?_⟩
      rw [cdf_single, cdf_single, if_neg hx, if_neg (not_lt.2 ((not_lt.1 hx).trans h1)), zero_mul,
        add_zero]
    | cons k2 rest =>
      obtain ⟨-, h2, h3, h4⟩ := wf_cons2.1 hwf
      by_cases hx2 : x < k2.x
      · refine ⟨k2.x - x, (k2.l - k0.r) / (k2.x - k0.x), sub_pos.2 hx2,
          div_nonneg (sub_nonneg.2 h2) (sub_pos.2 h3).le, fun x' h1 h2 => ?_⟩
        rw [add_sub_cancel] at h2
        rw [cdf_cons2, cdf_cons2, if_neg hx, if_pos hx2,
          if_neg (not_lt.2 ((not_lt.1 hx).trans h1)), if_pos h2]
        ring
      · obtain ⟨δ, s, hδ, hs, hh⟩ := ih h4
        refine ⟨δ, s, hδ, hs, fun x' h1 h2 => ?_⟩
        rw [cdf_cons2, cdf_cons2, if_neg hx, if_neg hx2,
          if_neg (not_lt.2 ((not_lt.1 hx).trans h1)), if_neg (not_lt.2 ((not_lt.1 hx2).trans h1))]
        exact hh x' h1 h2

example : ∃ δ s : Rat, 0 < δ ∧ 0 ≤ s ∧
    ∀ x', 2 ≤ x' → x' < 2 + δ → cdf pwEx x' = cdf pwEx 2 + s * (x' - 2) :=
  cdf_right_affine pwEx (by decide +kernel) 2

/-! ## I2: `quantile` is the generalised inverse -/

lemma quantile_core (k : Knot) (rest : PW) (h : wf (k :: rest) = true) (y : Rat)
    (hy0 : k.l < y) (hy1 : y ≤ 1) :
    ∃ q, quantile (k :: rest) y = some q ∧ k.x ≤ q ∧ y ≤ cdf (k :: rest) q ∧
      ∀ x, x < q → cdf (k :: rest) x < y := by
  induction rest generalizing k with
  | nil =>
    obtain ⟨h1, h2⟩ := wf_single.1 h
    refine ⟨k.x, ?_, le_rfl, ?_, ?_⟩
    · rw [quantile_single, if_pos (by rw [h2]; exact hy1)]
    · rw [cdf_single, if_neg (lt_irrefl _), h2]; exact hy1
    · intro x hx; rw [cdf_single, if_pos hx]; exact hy0
  | cons k2 rest ih =>
    obtain ⟨h1, h2, h3, h4⟩ := wf_cons2.1 h
    have hk2 := wf_head_le h4
    by_cases c1 : k.r ≥ y
    · refine ⟨k.x, ?_, le_rfl, ?_, ?_⟩
      · rw [quantile_cons2, if_pos c1]
      · rw [cdf_cons2, if_neg (lt_irrefl _), if_pos h3]; simpa using c1
      · intro x hx; rw [cdf_cons2, if_pos hx]; exact hy0
    · have c1' : k.r < y := not_le.1 c1
      by_cases c2 : k2.l ≥ y
      · obtain ⟨q1, q2, q3, q4⟩ := interp_inv h3 c1' c2
        refine ⟨k.x + (y - k.r) * (k2.x - k.x) / (k2.l - k.r), ?_, q1.le, ?_, ?_⟩
        · rw [quantile_cons2, if_neg c1, if_pos c2]
        · rw [cdf_cons2, if_neg (not_lt.2 q1.le)]
          split_ifs with hq
          · exact q3.ge
          · exact c2.le.trans (hk2.trans ((cdf_bounds k2 rest h4 _).2.2 (not_lt.1 hq)))
        · intro x hx
          rw [cdf_cons2]
          split_ifs with hx1 hx2
          · exact hy0
          · exact q4 x hx
          · exact absurd (lt_of_lt_of_le hx q2) hx2
      · have c2' : k2.l < y := not_le.1 c2
        obtain ⟨q, e1, e2, e3, e4⟩ := ih k2 h4 c2'
        refine ⟨q, ?_, h3.le.trans e2, ?_, ?_⟩
        · rw [quantile_cons2, if_neg c1, if_neg c2]; exact e1
        · rw [cdf_cons2, if_neg (not_lt.2 (h3.le.trans e2)), if_neg (not_lt.2 e2)]; exact e3
        · intro x hx
          rw [cdf_cons2]
          split_ifs with hx1 hx2
          · exact hy0
          · exact (interp_bounds h2 h3 (not_lt.1 hx1) hx2.le).2.trans_lt c2'
          · exact e4 x hx

/-- **I2 (MAIN).** For a top-level well-formed CDF and every `y ∈ (0, 1]`, `quantile p y` is
defined and returns the smallest `x` with `cdf p x ≥ y`: the returned `q` satisfies `y ≤ cdf p q`,
and every `x < q` has `cdf p x < y`. -/
theorem quantile_spec (p : PW) (hwf : wfTop p = true) (y : Rat) (hy0 : 0 < y) (hy1 : y ≤ 1) :
    ∃ q, quantile p y = some q ∧ y ≤ cdf p q ∧ ∀ x, x < q → cdf p x < y := by
  obtain ⟨k, rest, rfl, h1, h0⟩ := wfTop_iff.1 hwf
  obtain ⟨q, e1, -, e3, e4⟩ := quantile_core k rest h1 y (h0 ▸ hy0) hy1
  exact ⟨q, e1, e3, e4⟩

/-- Values: inside a ramp (`3/8 ↦ 1/2`), on a flat piece the LEFT end (`1/2 ↦ 1`), inside a jump the
jump position (`5/8 ↦ 2`), and `1 ↦ 3`. -/
example : quantile pwEx (3/8) = some (1/2) ∧ quantile pwEx (1/2) = some 1 ∧
    quantile pwEx (5/8) = some 2 ∧ quantile pwEx 1 = some 3 := by decide +kernel
example : ∃ q, quantile pwEx (5/8) = some q ∧ 5/8 ≤ cdf pwEx q ∧ ∀ x, x < q → cdf pwEx x < 5/8 :=
  quantile_spec pwEx (by decide +kernel) (5/8) (by norm_num) (by norm_num)
/-- The hypotheses `0 < y` and `y ≤ 1` cannot be dropped: at `y = 0` the model returns the first
knot although `cdf` is already `≥ 0` to its left (there is no least `x`), and above `1` it returns
`none`. -/
example : quantile pwEx 0 = some 0 ∧ (0 : Rat) ≤ cdf pwEx (-1) ∧ quantile pwEx (9/8) = none := by
  decide +kernel

/-- **I2 (general form).** The same without `first.l = 0`: for `wf p` and any `y` strictly above the
first knot's left limit and at most `1`, `quantile p y` is the least `x` with `cdf p x ≥ y`, and it
is at or after the first knot. -/
theorem quantile_spec_wf (p : PW) (hwf : wf p = true) (y : Rat)
    (hy0 : (p.head (wf_ne_nil hwf)).l < y) (hy1 : y ≤ 1) :
    ∃ q, quantile p y = some q ∧ (p.head (wf_ne_nil hwf)).x ≤ q ∧ y ≤ cdf p q ∧
      ∀ x, x < q → cdf p x < y := by
  cases p with
  | nil => exact absurd rfl (wf_ne_nil hwf)
  | cons k rest => exact quantile_core k rest hwf y hy0 hy1

example : ∃ q, quantile pwEx' (1/2) = some q ∧ 0 ≤ q ∧ 1/2 ≤ cdf pwEx' q ∧
    ∀ x, x < q → cdf pwEx' x < 1/2 :=
  quantile_spec_wf pwEx' (by decide +kernel) (1/2) (by norm_num [pwEx']) (by norm_num)

/-- **I2 (Galois connection).** For `wfTop p`, `y ∈ (0,1]` and `quantile p y = some q`:
`q ≤ x ↔ y ≤ cdf p x`. -/
theorem quantile_galois (p : PW) (hwf : wfTop p = true) (y : Rat) (hy0 : 0 < y) (hy1 : y ≤ 1)
    (q : Rat) (hq : quantile p y = some q) (x : Rat) : q ≤ x ↔ y ≤ cdf p x := by
  obtain ⟨q', e1, e2, e3⟩ := quantile_spec p hwf y hy0 hy1
  rw [hq] at e1
  obtain rfl : q = q' := Option.some.inj e1
  constructor
  · intro h
    exact e2.trans (cdf_mono p (wfTop_wf hwf) h)
  · intro h
    by_contra hlt
    exact absurd (e3 x (not_le.1 hlt)) (not_lt.2 h)

example (x : Rat) : 2 ≤ x ↔ 5/8 ≤ cdf pwEx x :=
  quantile_galois pwEx (by decide +kernel) (5/8) (by norm_num) (by norm_num) 2 (by decide +kernel) x

/-- **I2 (monotone).** The quantile function is monotone on `(0,1]`. -/
theorem quantile_mono (p : PW) (hwf : wfTop p = true) (y y' : Rat) (hy0 : 0 < y) (hyy : y ≤ y')
    (hy1 : y' ≤ 1) (q q' : Rat) (hq : quantile p y = some q) (hq' : quantile p y' = some q') :
    q ≤ q' := by
  rw [quantile_galois p hwf y hy0 (hyy.trans hy1) q hq]
  have := (quantile_galois p hwf y' (hy0.trans_le hyy) hy1 q' hq' q').1 le_rfl
  exact hyy.trans this

example : (1/2 : Rat) ≤ 2 :=
  quantile_mono pwEx (by decide +kernel) (3/8) (5/8) (by norm_num) (by norm_num) (by norm_num)
    (1/2) 2 (by decide +kernel) (by decide +kernel)

/-- **I2 (inverse transform).** For `wfTop p`, the set of `y ∈ (0,1]` whose quantile is `≤ x` is
exactly `(0, cdf p x] ∩ (0,1]` (and `cdf p x ≤ 1`, so this is `(0, cdf p x]`).  Hence if `U` is
uniform on `(0,1]`, `P(quantile p U ≤ x) = cdf p x`: `quantile p U` has CDF `cdf p`. -/
theorem inverse_transform (p : PW) (hwf : wfTop p = true) (x : Rat) :
    {y ∈ Set.Ioc (0 : Rat) 1 | ∃ q, quantile p y = some q ∧ q ≤ x} =
      Set.Ioc 0 (cdf p x) ∩ Set.Ioc 0 1 := by
  ext y
  simp only [Set.mem_ofPred_eq, Set.mem_inter_iff, Set.mem_Ioc]
  constructor
  · rintro ⟨⟨h0, h1⟩, q, hq, hqx⟩
    exact ⟨⟨h0, (quantile_galois p hwf y h0 h1 q hq x).1 hqx⟩, h0, h1⟩
  · rintro ⟨⟨h0, hc⟩, -, h1⟩
    obtain ⟨q, hq, -, -⟩ := quantile_spec p hwf y h0 h1
    exact ⟨⟨h0, h1⟩, q, hq, (quantile_galois p hwf y h0 h1 q hq x).2 hc⟩

/-- The same set is simply `(0, cdf p x]`, because `cdf p x ≤ 1`. -/
theorem inverse_transform' (p : PW) (hwf : wfTop p = true) (x : Rat) :
    {y ∈ Set.Ioc (0 : Rat) 1 | ∃ q, quantile p y = some q ∧ q ≤ x} = Set.Ioc 0 (cdf p x) := by
  rw [inverse_transform p hwf x, Set.inter_eq_left]
  exact Set.Ioc_subset_Ioc_right (cdf_range_top p hwf x).2

example : {y ∈ Set.Ioc (0 : Rat) 1 | ∃ q, quantile pwEx y = some q ∧ q ≤ 5/2} = Set.Ioc 0 (7/8) := by
  rw [inverse_transform' pwEx (by decide +kernel), show cdf pwEx (5/2) = 7/8 by decide +kernel]

/-! ## I3: bisection -/

lemma bisect_zero (F : Rat → Rat) (y : Rat) (mid : Rat → Rat → Rat) (tol lo hi : Rat) :
    bisect F y mid tol 0 lo hi = (lo, hi) := rfl

lemma bisect_succ (F : Rat → Rat) (y : Rat) (mid : Rat → Rat → Rat) (tol : Rat) (f : Nat)
    (lo hi : Rat) :
    bisect F y mid tol (f + 1) lo hi =
      if hi - lo ≤ tol then (lo, hi)
      else if mid lo hi = lo ∨ mid lo hi = hi then (lo, hi)
      else if F (mid lo hi) < y then bisect F y mid tol f (mid lo hi) hi
      else bisect F y mid tol f lo (mid lo hi) := by
  simp [bisect]

/-- `bisect_invariant` on the projections of the result, the form in which the induction goes through
and the later corollaries are proved. -/
lemma bisect_inv_aux (F : Rat → Rat) (y : Rat) (mid : Rat → Rat → Rat) (tol : Rat) (fuel : Nat)
    (lo hi : Rat) (h : F lo < y ∧ y ≤ F hi) (hlt : lo < hi)
    (hmid : ∀ a b, a < b → a ≤ mid a b ∧ mid a b ≤ b) :
    F (bisect F y mid tol fuel lo hi).1 < y ∧ y ≤ F (bisect F y mid tol fuel lo hi).2 ∧
      lo ≤ (bisect F y mid tol fuel lo hi).1 ∧
      (bisect F y mid tol fuel lo hi).1 < (bisect F y mid tol fuel lo hi).2 ∧
      (bisect F y mid tol fuel lo hi).2 ≤ hi := by
  induction fuel generalizing lo hi with
  | zero => exact ⟨h.1, h.2, le_rfl, hlt, le_rfl⟩
  | succ f ih =>
    rw [bisect_succ]
    split_ifs with c1 c2 c3
    · exact ⟨h.1, h.2, le_rfl, hlt, le_rfl⟩
    · exact ⟨h.1, h.2, le_rfl, hlt, le_rfl⟩
    · obtain ⟨m1, m2⟩ := hmid lo hi hlt
      have c2 := not_or.1 c2
      have hm : mid lo hi < hi := lt_of_le_of_ne m2 c2.2
      obtain ⟨a, b, c, d, e⟩ := ih (mid lo hi) hi ⟨c3, h.2⟩ hm
      exact ⟨a, b, m1.trans c, d, e⟩
    · obtain ⟨m1, m2⟩ := hmid lo hi hlt
      have c2 := not_or.1 c2
      have hm : lo < mid lo hi := lt_of_le_of_ne m1 (Ne.symm c2.1)
      obtain ⟨a, b, c, d, e⟩ := ih lo (mid lo hi) ⟨h.1, not_lt.1 c3⟩ hm
      exact ⟨a, b, c, d, e.trans m2⟩

/-- **I3 (bisection invariant).** For ANY function `F` and ANY midpoint rule `mid` with
`mid a b ∈ [a,b]`: if `F lo < y ≤ F hi` and `lo < hi`, the pair `(lo', hi')` returned by `bisect`
(for any tolerance and any fuel) still satisfies `F lo' < y ≤ F hi'`, and
`lo ≤ lo' < hi' ≤ hi`. -/
theorem bisect_invariant (F : Rat → Rat) (y : Rat) (mid : Rat → Rat → Rat) (tol : Rat) (fuel : Nat)
    (lo hi : Rat) (h : F lo < y ∧ y ≤ F hi) (hlt : lo < hi)
    (hmid : ∀ a b, a < b → a ≤ mid a b ∧ mid a b ≤ b) :
    let (lo', hi') := bisect F y mid tol fuel lo hi
    F lo' < y ∧ y ≤ F hi' ∧ lo ≤ lo' ∧ lo' < hi' ∧ hi' ≤ hi :=
  bisect_inv_aux F y mid tol fuel lo hi h hlt hmid

lemma half_strict {a b : Rat} (h : a < b) : a < (a + b) / 2 ∧ (a + b) / 2 < b := by
  constructor <;> linarith

lemma half_mem (a b : Rat) (h : a < b) : a ≤ (a + b) / 2 ∧ (a + b) / 2 ≤ b :=
  ⟨(half_strict h).1.le, (half_strict h).2.le⟩

example : bisect (cdf pwEx) (5/8) (fun a b => (a + b) / 2) (1/100) 4 0 3 = (15/8, 33/16) := by
  decide +kernel
example :
    let (lo', hi') := bisect (cdf pwEx) (5/8) (fun a b => (a + b) / 2) (1/100) 4 0 3
    cdf pwEx lo' < 5/8 ∧ 5/8 ≤ cdf pwEx hi' ∧ 0 ≤ lo' ∧ lo' < hi' ∧ hi' ≤ 3 :=
  bisect_invariant (cdf pwEx) (5/8) (fun a b => (a + b) / 2) (1/100) 4 0 3 (by decide +kernel)
    (by norm_num) half_mem
/-- A non-monotone function and a lopsided midpoint rule, for the next example. -/
def fEx (x : Rat) : Rat := x * x - 2 * x
def midEx (a b : Rat) : Rat := (3 * a + b) / 4
/-- The invariant also holds for a lopsided midpoint rule and a non-monotone `F`. -/
example :
    let (lo', hi') := bisect fEx 1 midEx 0 9 0 3
    fEx lo' < 1 ∧ 1 ≤ fEx hi' ∧ 0 ≤ lo' ∧ lo' < hi' ∧ hi' ≤ 3 :=
  bisect_invariant fEx 1 midEx 0 9 0 3 (by norm_num [fEx])
    (by norm_num) (fun a b h => by unfold midEx; constructor <;> linarith)

/-- **I3 (bisection brackets the true quantile).** If moreover `F` is monotone and `q` is the least
solution of `y ≤ F x` (`y ≤ F q` and `F x < y` for all `x < q`), then the returned pair brackets it:
`lo' < q ≤ hi'`; so the returned `hi'` over-estimates the true quantile by less than the final
width `hi' - lo'`. -/
theorem bisect_brackets (F : Rat → Rat) (hF : Monotone F) (y : Rat) (mid : Rat → Rat → Rat)
    (tol : Rat) (fuel : Nat) (lo hi : Rat) (h : F lo < y ∧ y ≤ F hi) (hlt : lo < hi)
    (hmid : ∀ a b, a < b → a ≤ mid a b ∧ mid a b ≤ b)
    (q : Rat) (hq : y ≤ F q) (hleast : ∀ x, x < q → F x < y) :
    let (lo', hi') := bisect F y mid tol fuel lo hi
    lo' < q ∧ q ≤ hi' ∧ 0 ≤ hi' - q ∧ hi' - q < hi' - lo' := by
  obtain ⟨h1, h2, -⟩ := bisect_inv_aux F y mid tol fuel lo hi h hlt hmid
  generalize bisect F y mid tol fuel lo hi = r at h1 h2 ⊢
  have hlo : r.1 < q := lt_of_not_ge fun hc => (hq.trans (hF hc)).not_gt h1
  have hhi : q ≤ r.2 := le_of_not_gt fun hc => (hleast _ hc).not_ge h2
  exact ⟨hlo, hhi, sub_nonneg.2 hhi, sub_lt_sub_left hlo _⟩

example :
    let (lo', hi') := bisect (cdf pwEx) (3/8) (fun a b => (a + b) / 2) (1/100) 4 0 3
    lo' < 1/2 ∧ 1/2 ≤ hi' ∧ 0 ≤ hi' - 1/2 ∧ hi' - 1/2 < hi' - lo' :=
  bisect_brackets (cdf pwEx) (cdf_mono pwEx (by decide +kernel)) (3/8) (fun a b => (a + b) / 2)
    (1/100) 4 0 3 (by decide +kernel) (by norm_num) half_mem
    (1/2) (by decide +kernel)
    (fun x hx => lt_of_not_ge ((quantile_galois pwEx (by decide +kernel) (3/8) (by norm_num)
      (by norm_num) (1/2) (by decide +kernel) x).not.1 (not_le.2 hx)))

/-- **I3 (tolerance).** Under the hypotheses of `bisect_brackets`, if the returned interval has width
`≤ tol` (i.e. the loop stopped on the tolerance test) then `hi'` is within `tol` above the true
quantile: `0 ≤ hi' - q ≤ tol` (in fact `< tol`). -/
theorem bisect_tol (F : Rat → Rat) (hF : Monotone F) (y : Rat) (mid : Rat → Rat → Rat)
    (tol : Rat) (fuel : Nat) (lo hi : Rat) (h : F lo < y ∧ y ≤ F hi) (hlt : lo < hi)
    (hmid : ∀ a b, a < b → a ≤ mid a b ∧ mid a b ≤ b)
    (q : Rat) (hq : y ≤ F q) (hleast : ∀ x, x < q → F x < y) :
    let (lo', hi') := bisect F y mid tol fuel lo hi
    hi' - lo' ≤ tol → 0 ≤ hi' - q ∧ hi' - q < tol := by
  obtain ⟨-, -, h3, h4⟩ := bisect_brackets F hF y mid tol fuel lo hi h hlt hmid q hq hleast
  exact fun hw => ⟨h3, h4.trans_le hw⟩

example : bisect (cdf pwEx) (3/8) (fun a b => (a + b) / 2) (1/2) 40 0 3 = (3/8, 3/4) := by
  decide +kernel

/-- **I3 (progress with the exact midpoint).** With the arithmetic midpoint `(a+b)/2` the final width
is at most `max tol ((hi - lo) / 2 ^ fuel)`: either the tolerance was reached or every unit of fuel
halved the interval. -/
theorem bisect_width_half (F : Rat → Rat) (y : Rat) (tol : Rat) (fuel : Nat) (lo hi : Rat)
    (hlt : lo < hi) :
    (bisect F y (fun a b => (a + b) / 2) tol fuel lo hi).2 -
      (bisect F y (fun a b => (a + b) / 2) tol fuel lo hi).1 ≤ max tol ((hi - lo) / 2 ^ fuel) := by
  induction fuel generalizing lo hi with
  | zero => simp [bisect_zero]
  | succ f ih =>
    rw [bisect_succ]
    obtain ⟨hm1, hm2⟩ := half_strict hlt
    split_ifs with c1 c2 c3
    · exact le_max_of_le_left c1
    · exact absurd c2 (not_or.2 ⟨hm1.ne', hm2.ne⟩)
    · refine (ih ((lo + hi) / 2) hi hm2).trans (max_le_max le_rfl (le_of_eq ?_))
      rw [show hi - (lo + hi) / 2 = (hi - lo) / 2 by ring, div_div, ← pow_succ']
    · refine (ih lo ((lo + hi) / 2) hm1).trans (max_le_max le_rfl (le_of_eq ?_))
      rw [show (lo + hi) / 2 - lo = (hi - lo) / 2 by ring, div_div, ← pow_succ']

example : (bisect (cdf pwEx) (3/8) (fun a b => (a + b) / 2) (1/100) 4 0 3).2 -
    (bisect (cdf pwEx) (3/8) (fun a b => (a + b) / 2) (1/100) 4 0 3).1 ≤ max (1/100) ((3 - 0) / 2 ^ 4) :=
  bisect_width_half (cdf pwEx) (3/8) (1/100) 4 0 3 (by norm_num)

/-- **I3 applied to the piecewise CDF.** Bisection on `cdf p` (for `wfTop p`, `y ∈ (0,1]`) from a valid
bracket returns `(lo', hi')` with `lo' < q ≤ hi'` where `quantile p y = some q`. -/
theorem bisect_cdf_quantile (p : PW) (hwf : wfTop p = true) (y : Rat) (hy0 : 0 < y) (hy1 : y ≤ 1)
    (mid : Rat → Rat → Rat) (tol : Rat) (fuel : Nat) (lo hi : Rat)
    (h : cdf p lo < y ∧ y ≤ cdf p hi) (hlt : lo < hi)
    (hmid : ∀ a b, a < b → a ≤ mid a b ∧ mid a b ≤ b) :
    ∃ q, quantile p y = some q ∧
      (bisect (cdf p) y mid tol fuel lo hi).1 < q ∧ q ≤ (bisect (cdf p) y mid tol fuel lo hi).2 := by
  obtain ⟨q, e1, e2, e3⟩ := quantile_spec p hwf y hy0 hy1
  obtain ⟨h1, h2, -⟩ :=
    bisect_brackets (cdf p) (cdf_mono p (wfTop_wf hwf)) y mid tol fuel lo hi h hlt hmid q e2 e3
  exact ⟨q, e1, h1, h2⟩

example : ∃ q, quantile pwEx (5/8) = some q ∧
    (bisect (cdf pwEx) (5/8) (fun a b => (a + b) / 2) (1/100) 4 0 3).1 < q ∧
    q ≤ (bisect (cdf pwEx) (5/8) (fun a b => (a + b) / 2) (1/100) 4 0 3).2 :=
  bisect_cdf_quantile pwEx (by decide +kernel) (5/8) (by norm_num) (by norm_num) _ _ _ 0 3
    (by decide +kernel) (by norm_num) half_mem

/-! ## I4: bracketing -/

lemma bracketUp_succ (F : Rat → Rat) (y : Rat) (f : Nat) (lo hi d : Rat) :
    bracketUp F y (f + 1) lo hi d =
      if F hi < y then bracketUp F y f hi (hi + d) (2 * d) else some (lo, hi) := rfl

lemma bracketDown_succ (F : Rat → Rat) (y : Rat) (f : Nat) (lo hi d : Rat) :
    bracketDown F y (f + 1) lo hi d =
      if y ≤ F lo then bracketDown F y f (lo - d) lo (2 * d) else some (lo, hi) := rfl

/-- **I4 (upward bracketing).** If `bracketUp F y fuel lo hi d = some (a, b)` where initially
`F lo < y`, `lo ≤ hi` and `d > 0`, then `F a < y ≤ F b`, `a < b` and `lo ≤ a`.
(The code calls `bracketUp F y fuel 0 0 1` when `F 0 < y`: `lo = hi = 0`, so the precondition
holds.)  No assumption on `F`. -/
theorem bracketUp_spec (F : Rat → Rat) (y : Rat) (fuel : Nat) (lo hi d a b : Rat)
    (hlo : F lo < y) (hle : lo ≤ hi) (hd : 0 < d)
    (hres : bracketUp F y fuel lo hi d = some (a, b)) :
    F a < y ∧ y ≤ F b ∧ a < b ∧ lo ≤ a := by
  induction fuel generalizing lo hi d with
  | zero => simp [bracketUp] at hres
  | succ f ih =>
    rw [bracketUp_succ] at hres
    split_ifs at hres with c
    · obtain ⟨h1, h2, h3, h4⟩ := ih hi (hi + d) (2 * d) c (by linarith) (by linarith) hres
      exact ⟨h1, h2, h3, hle.trans h4⟩
    · simp only [Option.some.injEq, Prod.mk.injEq] at hres
      obtain ⟨rfl, rfl⟩ := hres
      have hy : y ≤ F hi := not_lt.1 c
      refine ⟨hlo, hy, lt_of_le_of_ne hle ?_, le_rfl⟩
      rintro rfl
      exact absurd (lt_of_lt_of_le hlo hy) (lt_irrefl _)

/-- **I4 (upward bracketing, as called).** `bracketUp F y fuel 0 0 1 = some (a, b)` with `F 0 < y`
gives a valid bracket `F a < y ≤ F b`, `0 ≤ a < b`. -/
theorem bracketUp_call (F : Rat → Rat) (y : Rat) (fuel : Nat) (a b : Rat) (h0 : F 0 < y)
    (hres : bracketUp F y fuel 0 0 1 = some (a, b)) : F a < y ∧ y ≤ F b ∧ a < b ∧ 0 ≤ a :=
  bracketUp_spec F y fuel 0 0 1 a b h0 le_rfl one_pos hres

example : bracketUp (cdf pwEx) (5/8) 10 0 0 1 = some (1, 3) := by decide +kernel
example : cdf pwEx 1 < 5/8 ∧ 5/8 ≤ cdf pwEx 3 ∧ (1 : Rat) < 3 ∧ (0 : Rat) ≤ 1 :=
  bracketUp_call (cdf pwEx) (5/8) 10 1 3 (by decide +kernel) (by decide +kernel)
/-- The precondition `F lo < y` cannot be dropped: called with `y ≤ F 0`, `bracketUp` returns the
degenerate pair `(0, 0)`, which is not a bracket. -/
example : bracketUp (cdf pwEx) (1/8) 10 0 0 1 = some (0, 0) := by decide +kernel
/-- Running out of fuel yields `none` (the theorem says nothing then). -/
example : bracketUp (cdf pwEx) (5/8) 2 0 0 1 = none := by decide +kernel

/-- **I4 (downward bracketing).** If `bracketDown F y fuel lo hi d = some (a, b)` where initially
`y ≤ F hi`, `lo ≤ hi` and `d > 0`, then `F a < y ≤ F b`, `a < b` and `b ≤ hi`.
(The code calls `bracketDown F y fuel 0 0 1` when `y ≤ F 0`.)  No assumption on `F`. -/
theorem bracketDown_spec (F : Rat → Rat) (y : Rat) (fuel : Nat) (lo hi d a b : Rat)
    (hhi : y ≤ F hi) (hle : lo ≤ hi) (hd : 0 < d)
    (hres : bracketDown F y fuel lo hi d = some (a, b)) :
    F a < y ∧ y ≤ F b ∧ a < b ∧ b ≤ hi := by
  induction fuel generalizing lo hi d with
  | zero => simp [bracketDown] at hres
  | succ f ih =>
    rw [bracketDown_succ] at hres
    split_ifs at hres with c
    · obtain ⟨h1, h2, h3, h4⟩ := ih (lo - d) lo (2 * d) c (by linarith) (by linarith) hres
      exact ⟨h1, h2, h3, h4.trans hle⟩
    · simp only [Option.some.injEq, Prod.mk.injEq] at hres
      obtain ⟨rfl, rfl⟩ := hres
      have hy : F lo < y := not_le.1 c
      refine ⟨hy, hhi, lt_of_le_of_ne hle ?_, le_rfl⟩
      rintro rfl
      exact absurd (lt_of_lt_of_le hy hhi) (lt_irrefl _)

/-- **I4 (downward bracketing, as called).** `bracketDown F y fuel 0 0 1 = some (a, b)` with
`y ≤ F 0` gives a valid bracket `F a < y ≤ F b`, `a < b ≤ 0`. -/
theorem bracketDown_call (F : Rat → Rat) (y : Rat) (fuel : Nat) (a b : Rat) (h0 : y ≤ F 0)
    (hres : bracketDown F y fuel 0 0 1 = some (a, b)) : F a < y ∧ y ≤ F b ∧ a < b ∧ b ≤ 0 :=
  bracketDown_spec F y fuel 0 0 1 a b h0 le_rfl one_pos hres

example : bracketDown (cdf pwEx) (1/8) 10 0 0 1 = some (-1, 0) := by decide +kernel
example : cdf pwEx (-1) < 1/8 ∧ 1/8 ≤ cdf pwEx 0 ∧ (-1 : Rat) < 0 ∧ (0 : Rat) ≤ 0 :=
  bracketDown_call (cdf pwEx) (1/8) 10 (-1) 0 (by decide +kernel) (by decide +kernel)

end MV.InvCDF
