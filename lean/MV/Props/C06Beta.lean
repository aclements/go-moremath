import MV.Props.C08
/-!
# C06 — the binomial CDF as the code computes it: through the incomplete beta function

`BinomialDist.CDF(k)` returns `mathx.BetaInc(1-P, N-k, k+1)` for `0 ≤ k < N`. With the integer-parameter
model of the regularised incomplete beta function (`betaIncInt`, proved in C08 to be the binomial tail sum and
the normalised integral) this wiring is the definitional CDF:

  `binomCDF n p k = betaIncInt (1-p) (n-k) (k+1)`     (`binomCDF_eq_betaIncInt`)

so the C06 clause "CDF = sum of the PMF" and the C08 clauses about `BetaInc` speak of the same number.
-/
namespace MV.Discrete
open Finset MV.Special

/-- **Wiring of `BinomialDist.CDF`.** For `0 ≤ k < n` and every rational `p`, the partial sum of the binomial
point masses up to `k` is the regularised incomplete beta function `I_{1-p}(n-k, k+1)`. -/
theorem binomCDF_eq_betaIncInt (n k : ℕ) (p : ℚ) (hk : k < n) :
    binomCDF n p (k : ℤ) = betaIncInt (1 - p) (n - k) (k + 1) := by
  -- both sides are `Σ_{j ≤ k} C(n,j) p^j (1−p)^(n−j)`: the upper tail of Binomial(n, 1−p) from
  -- `n − k`, read from the other end
  rw [binomCDF_eq_sum n p (k : ℤ) (by omega), Int.toNat_natCast,
    betaIncInt_eq_binTail _ _ _ (Nat.le_add_left 1 k), show n - k + (k + 1) - 1 = n by omega,
    binTail_reflect, show n + 1 - (n - k) = k + 1 by omega]
  exact sum_congr rfl fun j _ => binomPMF_natCast n p j

example : binomCDF 4 (1/3) 2 = betaIncInt (1 - 1/3) 2 3 := binomCDF_eq_betaIncInt 4 2 (1/3) (by decide)

end MV.Discrete
