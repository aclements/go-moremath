import Mathlib.Tactic
import MV.Model.Hist
/-!
# C14 — linear histogram binning, counter conservation, and the quantile rank walk

All results are about the exact-rational executable model in `MV/Model/Hist.lean`.
The binning laws (H1, H2, H4a) are for a non-degenerate `LinearHist`, `mn < mx` and `0 < n`;
conservation (H3), the affine laws (H4b, H4c) and the rank walk (H5) hold for all parameters.
-/
namespace MV.Hist

/-! ## H1 / H4: binning rule versus bin edges -/

section lin
variable {mn mx : ℚ} {n : ℕ} {x : ℚ}

lemma ratFloor_eq (q : ℚ) : q.floor = ⌊q⌋ := rfl

lemma linBinToValue_zero : linBinToValue mn mx n 0 = mn := by
  simp [linBinToValue]

lemma linBinToValue_n (hn : 0 < n) : linBinToValue mn mx n (n : ℚ) = mx := by
  have hN : (n : ℚ) ≠ 0 := by exact_mod_cast hn.ne'
  unfold linBinToValue
  field_simp
  ring

/-- Galois-connection form of the binning rule: the integer `i` is at most the bin index of `x`
exactly when the lower edge `BinToValue(i)` is at most `x`. -/
theorem le_linBin_iff (hm : mn < mx) (hn : 0 < n) (i : ℤ) :
    i ≤ linBin mn mx n x ↔ linBinToValue mn mx n (i : ℚ) ≤ x := by
  have hd : (0 : ℚ) < mx - mn := sub_pos.mpr hm
  have hN : (0 : ℚ) < (n : ℚ) := by exact_mod_cast hn
  unfold linBin linBinToValue
  rw [ratFloor_eq, Int.le_floor, le_div_iff₀ hd, ← le_sub_iff_add_le', div_le_iff₀ hN]
  constructor <;> intro h <;> linarith

/-- The bin index of `x` is below the integer `i` exactly when `x` is strictly below the edge
`BinToValue(i)`. -/
theorem linBin_lt_iff (hm : mn < mx) (hn : 0 < n) (i : ℤ) :
    linBin mn mx n x < i ↔ x < linBinToValue mn mx n (i : ℚ) := by
  rw [← not_le, le_linBin_iff hm hn, not_le]

example : (1 : ℤ) ≤ linBin (0 : ℚ) 10 5 (7 / 2) :=
  (le_linBin_iff (by norm_num) (by norm_num) 1).2 (by decide +kernel)
example : linBin (0 : ℚ) 10 5 (7 / 2) < (2 : ℤ) :=
  (linBin_lt_iff (by norm_num) (by norm_num) 2).2 (by decide +kernel)

/-- H1. A value lands in bin `i` (any integer, including out-of-range indices) exactly when it lies
in the half-open interval between the edges `BinToValue(i)` and `BinToValue(i+1)`. -/
theorem linBin_iff (hm : mn < mx) (hn : 0 < n) (i : ℤ) :
    linBin mn mx n x = i ↔
      linBinToValue mn mx n (i : ℚ) ≤ x ∧ x < linBinToValue mn mx n ((i : ℚ) + 1) := by
  rw [← le_linBin_iff hm hn, show ((i : ℚ) + 1) = ((i + 1 : ℤ) : ℚ) by push_cast; ring,
    ← linBin_lt_iff hm hn]
  omega

example : linBin (0 : ℚ) 10 5 (7 / 2) = 1 :=
  (linBin_iff (by norm_num) (by norm_num) 1).2 (by decide +kernel)

example : linBinToValue (0 : ℚ) 10 5 1 ≤ 7 / 2 ∧ (7 / 2 : ℚ) < linBinToValue (0 : ℚ) 10 5 ((1 : ℤ) + 1) :=
  (linBin_iff (mn := 0) (mx := 10) (n := 5) (by norm_num) (by norm_num) 1).1 (by norm_num [linBin, ratFloor_eq])

/-- H4a. `BinToValue` is strictly increasing in the (fractional) bin position. -/
theorem linBinToValue_strictMono (hm : mn < mx) (hn : 0 < n) :
    StrictMono (linBinToValue mn mx n) := by
  have hd : (0 : ℚ) < mx - mn := sub_pos.mpr hm
  have hN : (0 : ℚ) < (n : ℚ) := by exact_mod_cast hn
  intro a b hab
  unfold linBinToValue
  have : a * (mx - mn) / n < b * (mx - mn) / n :=
    div_lt_div_of_pos_right (mul_lt_mul_of_pos_right hab hd) hN
  linarith

example : linBinToValue (0 : ℚ) 10 5 (3 / 2) < linBinToValue (0 : ℚ) 10 5 (7 / 4) :=
  linBinToValue_strictMono (by norm_num) (by norm_num) (by norm_num)

/-- H4b. `BinToValue` is affine: moving the bin position by `d` moves the value by `d` bin widths
`(mx − mn)/n`, so it interpolates linearly inside a bin. -/
theorem linBinToValue_add (mn mx : ℚ) (n : ℕ) (b d : ℚ) :
    linBinToValue mn mx n (b + d) = linBinToValue mn mx n b + d * (mx - mn) / n := by
  unfold linBinToValue
  ring

example : linBinToValue (0 : ℚ) 10 5 (1 + 1 / 2) = linBinToValue (0 : ℚ) 10 5 1 + 1 / 2 * (10 - 0) / (5 : ℕ) :=
  linBinToValue_add 0 10 5 1 (1 / 2)

/-- H4c. Inside bin `i`, position `i + t` with `0 ≤ t ≤ 1` is the convex combination of the two
edges of the bin. -/
theorem linBinToValue_interp (mn mx : ℚ) (n : ℕ) (i t : ℚ) :
    linBinToValue mn mx n (i + t) =
      (1 - t) * linBinToValue mn mx n i + t * linBinToValue mn mx n (i + 1) := by
  unfold linBinToValue
  ring

example : linBinToValue (0 : ℚ) 10 5 (1 + 1 / 4) =
    (1 - 1 / 4) * linBinToValue (0 : ℚ) 10 5 1 + 1 / 4 * linBinToValue (0 : ℚ) 10 5 (1 + 1) :=
  linBinToValue_interp 0 10 5 1 (1 / 4)

/-! ## H2: slots -/

lemma slotOf_eq_under_iff {n : ℕ} {b : ℤ} : slotOf n b = .under ↔ b < 0 := by
  unfold slotOf; split_ifs <;> simp_all

lemma slotOf_eq_over_iff {n : ℕ} {b : ℤ} : slotOf n b = .over ↔ (n : ℤ) ≤ b := by
  unfold slotOf; split_ifs <;> simp_all <;> omega

lemma slotOf_eq_bin_iff {n : ℕ} {b : ℤ} {i : ℕ} (hi : i < n) : slotOf n b = .bin i ↔ b = i := by
  unfold slotOf; split_ifs <;> simp_all <;> omega

lemma slotOf_bin_lt {n : ℕ} {b : ℤ} {i : ℕ} (h : slotOf n b = .bin i) : i < n := by
  unfold slotOf at h
  split_ifs at h with h1 h2
  injection h with h
  omega

/-- H2a. A value is counted as underflow exactly when it is below `min`. -/
theorem slot_under_iff (hm : mn < mx) (hn : 0 < n) :
    slotOf n (linBin mn mx n x) = .under ↔ x < mn := by
  rw [slotOf_eq_under_iff, linBin_lt_iff hm hn 0]
  simp [linBinToValue_zero]

example : slotOf 5 (linBin (0 : ℚ) 10 5 (-1 / 3)) = .under :=
  (slot_under_iff (by norm_num) (by norm_num)).2 (by norm_num)

/-- H2b. A value is counted as overflow exactly when it is at least `max`. -/
theorem slot_over_iff (hm : mn < mx) (hn : 0 < n) :
    slotOf n (linBin mn mx n x) = .over ↔ mx ≤ x := by
  rw [slotOf_eq_over_iff, le_linBin_iff hm hn]
  simp [linBinToValue_n hn]

example : slotOf 5 (linBin (0 : ℚ) 10 5 10) = .over :=
  (slot_over_iff (by norm_num) (by norm_num)).2 (by norm_num)

/-- H2c. For an in-range bin `i < n`, a value is counted in bin `i` exactly when it lies between the
edges `BinToValue(i)` (inclusive) and `BinToValue(i+1)` (exclusive). -/
theorem slot_bin_iff (hm : mn < mx) (hn : 0 < n) (i : ℕ) (hi : i < n) :
    slotOf n (linBin mn mx n x) = .bin i ↔
      linBinToValue mn mx n (i : ℚ) ≤ x ∧ x < linBinToValue mn mx n ((i : ℚ) + 1) := by
  rw [slotOf_eq_bin_iff hi, linBin_iff hm hn]
  simp

example : slotOf 5 (linBin (0 : ℚ) 10 5 (7 / 2)) = .bin 1 :=
  (slot_bin_iff (by norm_num) (by norm_num) 1 (by norm_num)).2 (by decide +kernel)

end lin

/-! ## H3: conservation of counts -/

/-- The model's `total` is `under + Σ bins + over`. -/
theorem total_eq (c : Counts) : c.total = c.under + c.bins.sum + c.over := by
  rw [Counts.total, ← List.sum_eq_foldl]

example : (Counts.mk 2 [1, 0, 3] 4).total = 2 + [1, 0, 3].sum + 4 := total_eq _

lemma sum_set_succ (l : List ℕ) (i : ℕ) (hi : i < l.length) :
    (l.set i (l.getD i 0 + 1)).sum = l.sum + 1 := by
  induction l generalizing i with
  | nil => simp at hi
  | cons h t ih =>
    cases i with
    | zero => simp; omega
    | succ i =>
      have := ih i (by simpa using hi)
      simp only [List.getD_eq_getElem?_getD, List.getElem?_cons_succ, List.set_cons_succ,
        List.sum_cons] at this ⊢
      omega

/-- H3a. Every `add` into a valid slot increases the total by exactly one. -/
theorem add_total (c : Counts) (s : Slot) (h : ∀ i, s = .bin i → i < c.bins.length) :
    (c.add s).total = c.total + 1 := by
  rcases s with _ | i | _
  · simp only [Counts.add, total_eq]; omega
  · have hi := h i rfl
    simp only [Counts.add, total_eq, sum_set_succ _ _ hi]
    omega
  · simp only [Counts.add, total_eq]; omega

example : ((Counts.mk 2 [1, 0, 3] 4).add (.bin 1)).total = (Counts.mk 2 [1, 0, 3] 4).total + 1 :=
  add_total _ _ (by intro i h; cases h; decide)

/-- H3b. Adding to the underflow slot bumps `under` by one and changes nothing else. -/
theorem add_under_eq (c : Counts) :
    (c.add .under).under = c.under + 1 ∧ (c.add .under).bins = c.bins ∧
      (c.add .under).over = c.over := ⟨rfl, rfl, rfl⟩

/-- H3c. Adding to the overflow slot bumps `over` by one and changes nothing else. -/
theorem add_over_eq (c : Counts) :
    (c.add .over).under = c.under ∧ (c.add .over).bins = c.bins ∧
      (c.add .over).over = c.over + 1 := ⟨rfl, rfl, rfl⟩

example : ((Counts.mk 2 [1, 0, 3] 4).add .under).under = 3 ∧
    ((Counts.mk 2 [1, 0, 3] 4).add .over).over = 5 :=
  ⟨(add_under_eq _).1, (add_over_eq _).2.2⟩

/-- H3d. Adding to a valid bin `i` leaves `under`, `over` and the number of bins unchanged, bumps
bin `i` by one, and leaves every other bin unchanged: exactly one counter changes. -/
theorem add_bin_eq (c : Counts) (i : ℕ) (hi : i < c.bins.length) :
    (c.add (.bin i)).under = c.under ∧ (c.add (.bin i)).over = c.over ∧
      (c.add (.bin i)).bins.length = c.bins.length ∧
      ∀ j, (c.add (.bin i)).bins.getD j 0 =
        if j = i then c.bins.getD i 0 + 1 else c.bins.getD j 0 := by
  refine ⟨rfl, rfl, by simp [Counts.add], fun j => ?_⟩
  simp only [Counts.add, List.getD_eq_getElem?_getD, List.getElem?_set]
  by_cases hji : j = i
  · subst hji; simp [hi]
  · have : ¬ i = j := fun h => hji h.symm
    simp [hji, this]

example : ((Counts.mk 2 [1, 0, 3] 4).add (.bin 2)).bins.getD 2 0 = 4 ∧
    ((Counts.mk 2 [1, 0, 3] 4).add (.bin 2)).bins.getD 0 0 = 1 := by
  have h := (add_bin_eq (Counts.mk 2 [1, 0, 3] 4) 2 (by decide)).2.2.2
  exact ⟨by simpa using h 2, by simpa using h 0⟩

lemma add_bins_length (c : Counts) (s : Slot) : (c.add s).bins.length = c.bins.length := by
  cases s <;> simp [Counts.add]

/-- Counters after adding, one by one, samples classified by an arbitrary function `f`. -/
def classRun {α : Type} (f : α → ℤ) (n : ℕ) (xs : List α) (c : Counts) : Counts :=
  xs.foldl (fun c x => c.add (slotOf n (f x))) c

/-- Conservation for any classification function and any starting counters with `n` bins: the total
grows by exactly the number of samples, and the number of bins stays `n`. -/
theorem classRun_total {α : Type} (f : α → ℤ) (n : ℕ) (xs : List α) (c : Counts)
    (hc : c.bins.length = n) :
    (classRun f n xs c).total = c.total + xs.length ∧ (classRun f n xs c).bins.length = n := by
  unfold classRun
  induction xs generalizing c with
  | nil => simp [hc]
  | cons x xs ih =>
    simp only [List.foldl_cons, List.length_cons]
    have hlen : (c.add (slotOf n (f x))).bins.length = n := by rw [add_bins_length, hc]
    have htot := add_total c (slotOf n (f x)) (fun i h => by rw [hc]; exact slotOf_bin_lt h)
    obtain ⟨h1, h2⟩ := ih _ hlen
    exact ⟨by rw [h1, htot]; omega, h2⟩

lemma empty_bins_length (n : ℕ) : (Counts.empty n).bins.length = n := List.length_replicate

lemma classRun_empty_total {α : Type} (f : α → ℤ) (n : ℕ) (xs : List α) :
    (classRun f n xs (Counts.empty n)).total = xs.length := by
  rw [(classRun_total f n xs _ (empty_bins_length n)).1, total_eq]
  simp [Counts.empty]

lemma linRun_eq (mn mx : ℚ) (n : ℕ) (xs : List ℚ) :
    linRun mn mx n xs = classRun (linBin mn mx n) n xs (Counts.empty n) := rfl

/-- H3e. After any history of `Add`s to a linear histogram, the counters sum to the number of values
added (nothing is lost or double counted), for every `mn`, `mx`, `n`. -/
theorem linRun_total (mn mx : ℚ) (n : ℕ) (xs : List ℚ) :
    (linRun mn mx n xs).total = xs.length := by
  rw [linRun_eq]; exact classRun_empty_total _ n xs

/-- H3f. The number of bins never changes. -/
theorem linRun_bins_length (mn mx : ℚ) (n : ℕ) (xs : List ℚ) :
    (linRun mn mx n xs).bins.length = n := by
  rw [linRun_eq]; exact (classRun_total _ n xs _ (empty_bins_length n)).2

example : (linRun 0 10 5 [-1, 0, 7 / 2, 3, 10, 99 / 10]).total = 6 := linRun_total _ _ _ _
example : (linRun 0 10 5 [-1, 0, 7 / 2, 3, 10, 99 / 10]).bins.length = 5 :=
  linRun_bins_length _ _ _ _

/-! ## H5: the rank walk -/

/-- H5a. Rank walk, general start index `i0`.  If `1 ≤ goal ≤ Σ bins`, the walk returns
`(i0 + i, g, cnt)` where `i` is a valid bin, `cnt` is its count, `1 ≤ g ≤ cnt`, and the bins strictly
before `i` hold exactly `goal − g` samples: bin `i` holds the `goal`-th smallest binned sample and
`g` is its rank inside that bin. -/
theorem walk_spec (bins : List ℕ) (i0 goal : ℕ) (h1 : 1 ≤ goal) (h2 : goal ≤ bins.sum) :
    ∃ i g cnt, walk bins i0 goal = some (i0 + i, g, cnt) ∧ i < bins.length ∧
      bins[i]? = some cnt ∧ 1 ≤ g ∧ g ≤ cnt ∧ (bins.take i).sum + g = goal := by
  induction bins generalizing i0 goal with
  | nil => simp at h2; omega
  | cons c cs ih =>
    rw [walk]
    split_ifs with hc
    · exact ⟨0, goal, c, by simp, by simp, by simp, h1, hc, by simp⟩
    · simp only [List.sum_cons] at h2
      obtain ⟨i, g, cnt, hw, hi, hget, hg1, hg2, hs⟩ :=
        ih (i0 + 1) (goal - c) (by omega) (by omega)
      refine ⟨i + 1, g, cnt, ?_, by simp; omega, by simpa using hget, hg1, hg2, ?_⟩
      · rw [hw, Nat.add_assoc, Nat.add_comm 1 i]
      · simp only [List.take_succ_cons, List.sum_cons]; omega

/-- H5b. Rank walk from index 0: returns `some (i, g, cnt)` with `i < bins.length`, `cnt = bins[i]`,
`1 ≤ g ≤ cnt` and `Σ_{j<i} bins[j] + g = goal`. -/
theorem walk_zero_spec (bins : List ℕ) (goal : ℕ) (h1 : 1 ≤ goal) (h2 : goal ≤ bins.sum) :
    ∃ i g cnt, walk bins 0 goal = some (i, g, cnt) ∧ i < bins.length ∧
      bins[i]? = some cnt ∧ 1 ≤ g ∧ g ≤ cnt ∧ (bins.take i).sum + g = goal := by
  simpa using walk_spec bins 0 goal h1 h2

example : walk [2, 0, 3, 1] 0 4 = some (2, 2, 3) := by decide
example : ∃ i g cnt, walk [2, 0, 3, 1] 0 4 = some (i, g, cnt) ∧ i < 4 ∧
    [2, 0, 3, 1][i]? = some cnt ∧ 1 ≤ g ∧ g ≤ cnt ∧ ([2, 0, 3, 1].take i).sum + g = 4 :=
  walk_zero_spec [2, 0, 3, 1] 4 (by decide) (by decide)

/-- H5c. If the goal exceeds the number of binned samples, the walk fails (any start index). -/
theorem walk_none (bins : List ℕ) (i0 goal : ℕ) (h : bins.sum < goal) :
    walk bins i0 goal = none := by
  induction bins generalizing i0 goal with
  | nil => rw [walk]
  | cons c cs ih =>
    simp only [List.sum_cons] at h
    rw [walk, if_neg (by omega)]
    exact ih _ _ (by omega)

example : walk [2, 0, 3, 1] 0 7 = none := walk_none _ _ _ (by decide)

/-- H5d. For a positive goal the walk fails exactly when the goal exceeds the binned total. -/
theorem walk_eq_none_iff (bins : List ℕ) (i0 goal : ℕ) (h1 : 1 ≤ goal) :
    walk bins i0 goal = none ↔ bins.sum < goal := by
  constructor
  · intro h
    by_contra hc
    obtain ⟨i, g, cnt, hw, -⟩ := walk_spec bins i0 goal h1 (by omega)
    rw [hw] at h; cases h
  · exact walk_none bins i0 goal

example : walk [2, 0, 3, 1] 5 6 ≠ none := by
  rw [Ne, walk_eq_none_iff _ _ _ (by decide)]; decide

/-! ### `histQuantilePos` -/

/-- H5e. The quantile position is NaN (`none`) exactly when the goal is 0 or falls in the underflow
counter (`goal ≤ under`) or in the overflow counter (`goal > total − over`); in particular the inner
walk never fails otherwise. -/
theorem histQuantilePos_none_iff (c : Counts) (goal : ℕ) :
    histQuantilePos c goal = none ↔ goal ≤ c.under ∨ goal > c.total - c.over := by
  unfold histQuantilePos
  split_ifs with h
  · simp [h]
  · have ht := total_eq c
    obtain ⟨i, g, cnt, hw, -⟩ := walk_zero_spec c.bins (goal - c.under) (by omega) (by omega)
    rw [hw]
    simp [h]

example : histQuantilePos (Counts.mk 2 [1, 0, 3] 4) 2 = none :=
  (histQuantilePos_none_iff _ _).2 (Or.inl (by decide))
example : histQuantilePos (Counts.mk 2 [1, 0, 3] 4) 7 = none :=
  (histQuantilePos_none_iff _ _).2 (Or.inr (by decide))
example : histQuantilePos (Counts.mk 2 [1, 0, 3] 4) 6 ≠ none := by
  rw [Ne, histQuantilePos_none_iff]; decide

/-- Full description of a successful quantile position: the goal is strictly past the underflow and
not in the overflow, the walk lands in a valid bin `i` with count `cnt` and in-bin rank `g`
(`1 ≤ g ≤ cnt`), `under + Σ_{j<i} bins[j] + g = goal`, and the position is `i + g / cnt`. -/
theorem histQuantilePos_some_spec (c : Counts) (goal : ℕ) (pos : ℚ)
    (h : histQuantilePos c goal = some pos) :
    ∃ i g cnt, walk c.bins 0 (goal - c.under) = some (i, g, cnt) ∧ i < c.bins.length ∧
      c.bins[i]? = some cnt ∧ 1 ≤ g ∧ g ≤ cnt ∧ c.under + (c.bins.take i).sum + g = goal ∧
      pos = (i : ℚ) + (g : ℚ) / (cnt : ℚ) := by
  unfold histQuantilePos at h
  split_ifs at h with hcond
  have ht := total_eq c
  obtain ⟨i, g, cnt, hw, hi, hget, hg1, hg2, hs⟩ :=
    walk_zero_spec c.bins (goal - c.under) (by omega) (by omega)
  rw [hw] at h
  simp only [Option.some.injEq] at h
  exact ⟨i, g, cnt, hw, hi, hget, hg1, hg2, by omega, h.symm⟩

example : ∃ i g cnt, walk [1, 0, 3] 0 (5 - 2) = some (i, g, cnt) ∧ i < 3 ∧
    [1, 0, 3][i]? = some cnt ∧ 1 ≤ g ∧ g ≤ cnt ∧ 2 + ([1, 0, 3].take i).sum + g = 5 ∧
    (2 + 2 / 3 : ℚ) = (i : ℚ) + (g : ℚ) / (cnt : ℚ) :=
  histQuantilePos_some_spec (Counts.mk 2 [1, 0, 3] 4) 5 (2 + 2 / 3) (by decide +kernel)

/-- the in-bin fraction `g / cnt` of a rank `1 ≤ g ≤ cnt` lies in `(0, 1]` -/
lemma rank_div_mem {g cnt : ℕ} (h1 : 1 ≤ g) (h2 : g ≤ cnt) :
    (0 : ℚ) < (g : ℚ) / cnt ∧ (g : ℚ) / cnt ≤ 1 :=
  have hc : (0 : ℚ) < cnt := Nat.cast_pos.2 (h1.trans h2)
  ⟨div_pos (Nat.cast_pos.2 h1) hc, (div_le_one hc).2 (Nat.cast_le.2 h2)⟩

/-- H5f. A successful quantile position lies in the half-open-on-the-left bin interval
`(i, i+1]` of the bin `i` found by the walk, so `BinToValue(pos)` lies within bin `i`'s edges. -/
theorem histQuantilePos_in_bin (c : Counts) (goal : ℕ) (pos : ℚ)
    (h : histQuantilePos c goal = some pos) :
    ∃ i g cnt, walk c.bins 0 (goal - c.under) = some (i, g, cnt) ∧ i < c.bins.length ∧
      (i : ℚ) < pos ∧ pos ≤ (i : ℚ) + 1 := by
  obtain ⟨i, g, cnt, hw, hi, -, hg1, hg2, -, hpos⟩ := histQuantilePos_some_spec c goal pos h
  obtain ⟨h0, h1⟩ := rank_div_mem hg1 hg2
  exact ⟨i, g, cnt, hw, hi, by rw [hpos]; exact lt_add_of_pos_right _ h0,
    by rw [hpos]; exact add_le_add_right h1 _⟩

example : ∃ i g cnt, walk [1, 0, 3] 0 (5 - 2) = some (i, g, cnt) ∧ i < 3 ∧
    (i : ℚ) < 2 + 2 / 3 ∧ (2 + 2 / 3 : ℚ) ≤ (i : ℚ) + 1 :=
  histQuantilePos_in_bin (Counts.mk 2 [1, 0, 3] 4) 5 (2 + 2 / 3) (by decide +kernel)

lemma take_sum_mono (l : List ℕ) {i j : ℕ} (h : i ≤ j) : (l.take i).sum ≤ (l.take j).sum :=
  (List.take_sublist_take_left h).sum_le_sum fun _ _ => Nat.zero_le _

lemma take_succ_sum (l : List ℕ) (i cnt : ℕ) (h : l[i]? = some cnt) :
    (l.take (i + 1)).sum = (l.take i).sum + cnt := by
  obtain ⟨hi, rfl⟩ := List.getElem?_eq_some_iff.1 h
  exact List.sum_take_succ l i hi

/-- H5g. The quantile position is non-decreasing in the goal rank (hence in `q`): for goals
`g1 ≤ g2` that both yield a position, `pos1 ≤ pos2`. -/
theorem histQuantilePos_mono (c : Counts) (g1 g2 : ℕ) (p1 p2 : ℚ) (hg : g1 ≤ g2)
    (h1 : histQuantilePos c g1 = some p1) (h2 : histQuantilePos c g2 = some p2) : p1 ≤ p2 := by
  obtain ⟨i1, r1, c1, -, hi1, hget1, hr1, hrc1, hs1, hp1⟩ := histQuantilePos_some_spec c g1 p1 h1
  obtain ⟨i2, r2, c2, -, hi2, hget2, hr2, hrc2, hs2, hp2⟩ := histQuantilePos_some_spec c g2 p2 h2
  have hle : i1 ≤ i2 := by
    by_contra hlt
    have hm := take_sum_mono c.bins (i := i2 + 1) (j := i1) (by omega)
    rw [take_succ_sum c.bins i2 c2 hget2] at hm
    omega
  rw [hp1, hp2]
  rcases Nat.eq_or_lt_of_le hle with heq | hlt
  · subst heq
    obtain rfl : c1 = c2 := Option.some.inj (hget1.symm.trans hget2)
    exact add_le_add_right
      (div_le_div_of_nonneg_right (Nat.cast_le.2 (by omega)) (Nat.cast_nonneg c1)) _
  · have hi : (i1 : ℚ) + 1 ≤ i2 := by exact_mod_cast hlt
    linarith [(rank_div_mem hr1 hrc1).2, (rank_div_mem hr2 hrc2).1]

example : (1 / 1 : ℚ) ≤ 2 + 2 / 3 :=
  histQuantilePos_mono (Counts.mk 2 [1, 0, 3] 4) 3 5 _ _ (by decide)
    (by decide +kernel) (by decide +kernel)

end MV.Hist
