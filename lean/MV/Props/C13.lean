import Mathlib.Tactic
import MV.Model.Stream
/-!
# C13 — StreamStats equals batch statistics for every stream and every split

The model (`MV.Stream.St.add`, `St.combine`, `run`) is the executable definition the
driver runs against the Go code.
-/
namespace MV.Stream

lemma sum_eq (xs : List Rat) : sum xs = xs.sum := List.sum_eq_foldl.symm

lemma sum_nil : sum [] = 0 := rfl
lemma sum_cons (x : Rat) (xs : List Rat) : sum (x :: xs) = x + sum xs := by
  simp only [sum_eq, List.sum_cons]
lemma sum_append (xs ys : List Rat) : sum (xs ++ ys) = sum xs + sum ys := by
  simp only [sum_eq, List.sum_append]

/-- sum of squares -/
def sumSq (xs : List Rat) : Rat := sum (xs.map fun x => x * x)

lemma sumSq_append (xs ys : List Rat) : sumSq (xs ++ ys) = sumSq xs + sumSq ys := by
  unfold sumSq; rw [List.map_append, sum_append]

lemma sum_sq_dev (xs : List Rat) (c : Rat) :
    sum (xs.map fun x => (x - c) * (x - c)) = sumSq xs - 2 * c * sum xs + (xs.length : Rat) * c * c := by
  induction xs with
  | nil => simp [sum_nil, sumSq]
  | cons x xs ih =>
    simp only [List.map_cons, sum_cons, sumSq, List.length_cons] at *
    rw [ih]; push_cast; ring

lemma length_ne_zero {d : List Rat} (h : d ≠ []) : (d.length : Rat) ≠ 0 :=
  Nat.cast_ne_zero.2 (List.length_pos_iff.2 h).ne'

lemma batchM2_eq (xs : List Rat) (h : xs ≠ []) :
    batchM2 xs = sumSq xs - sum xs * sum xs / (xs.length : Rat) := by
  have hn := length_ne_zero h
  unfold batchM2 batchMean
  rw [sum_sq_dev]
  field_simp
  ring

lemma ite_lt_eq_min (a b : Rat) : (if b < a then b else a) = min a b := by
  split_ifs with h
  exacts [(min_eq_right h.le).symm, (min_eq_left (not_lt.1 h)).symm]

lemma ite_gt_eq_max (a b : Rat) : (if b > a then b else a) = max a b := by
  split_ifs with h
  exacts [(max_eq_right h.le).symm, (max_eq_left (not_lt.1 h)).symm]

lemma listMin_cons (x : Rat) (xs : List Rat) : listMin (x :: xs) = xs.foldl min x :=
  congrArg (fun f => xs.foldl f x) (funext₂ ite_lt_eq_min)

lemma listMax_cons (x : Rat) (xs : List Rat) : listMax (x :: xs) = xs.foldl max x :=
  congrArg (fun f => xs.foldl f x) (funext₂ ite_gt_eq_max)

lemma listMin_cons_append (x : Rat) (xs : List Rat) (y : Rat) (ys : List Rat) :
    listMin ((x :: xs) ++ (y :: ys)) = min (listMin (x :: xs)) (listMin (y :: ys)) := by
  rw [List.cons_append, listMin_cons, listMin_cons, listMin_cons, List.foldl_append,
    List.foldl_cons, List.foldl_assoc]

lemma listMax_cons_append (x : Rat) (xs : List Rat) (y : Rat) (ys : List Rat) :
    listMax ((x :: xs) ++ (y :: ys)) = max (listMax (x :: xs)) (listMax (y :: ys)) := by
  rw [List.cons_append, listMax_cons, listMax_cons, listMax_cons, List.foldl_append,
    List.foldl_cons, List.foldl_assoc]

open Std in
/-- For an associative, commutative, idempotent operation the fold of a non-empty list from its own
head does not depend on the order: with `A`, `B` the two folds, `A = op x B` and `B = op y A`, so
`A = op A B = B`. -/
lemma foldl_perm_cons (op : Rat → Rat → Rat) [Associative op] [Commutative op] [IdempotentOp op]
    {x y : Rat} {xs ys : List Rat} (h : (x :: xs).Perm (y :: ys)) :
    xs.foldl op x = ys.foldl op y := by
  have key : ∀ {x y xs ys}, (x :: xs).Perm (y :: ys) → xs.foldl op x = op x (ys.foldl op y) := by
    intro x y xs ys h
    have := h.foldl_eq (f := op) x
    rwa [List.foldl_cons, List.foldl_cons, IdempotentOp.idempotent (op := op),
      List.foldl_assoc] at this
  have a := key h
  have b := key h.symm
  have hA : op (xs.foldl op x) (ys.foldl op y) = xs.foldl op x := by
    conv_lhs => rw [a]
    rw [Associative.assoc (op := op), IdempotentOp.idempotent (op := op), ← a]
  have hB : op (xs.foldl op x) (ys.foldl op y) = ys.foldl op y := by
    conv_lhs => rw [b]
    rw [Commutative.comm (op := op), Associative.assoc (op := op),
      IdempotentOp.idempotent (op := op), ← b]
  exact hA.symm.trans hB

/-- The state invariant: the accumulator holds the batch statistics of `d`. -/
def Good (p : St × List Rat) : Prop := p.1 = batch p.2

lemma batch_nonempty (d : List Rat) (h : d ≠ []) :
    batch d = ⟨d.length, sum d, listMin d, listMax d, batchMean d, batchMeanSq d, batchM2 d⟩ := by
  unfold batch; cases d with
  | nil => exact absurd rfl h
  | cons x xs => simp

/-- Pooled mean (of the values, or of their squares) of two groups of sizes `n`, `m` with sums
`S`, `T`: `S/n` moved by the fraction `m/(n+m)` of the way to `T/m` is `(S+T)/(n+m)`. -/
lemma mean_combine {n m S T : Rat} (hn : n ≠ 0) (hm : m ≠ 0) (hnm : n + m ≠ 0) :
    S / n + (T / m - S / n) * m / (n + m) = (S + T) / (n + m) := by
  field_simp; ring

/-- Pooled sum of squared deviations, each written as `Σ x² − (Σ x)² / n` (`P`, `Q` the sums of
squares): the two parts plus `n m / (n+m)` times the squared difference of the means. -/
lemma m2_combine {n m S T P Q : Rat} (hn : n ≠ 0) (hm : m ≠ 0) (hnm : n + m ≠ 0) :
    (P - S * S / n) + (Q - T * T / m) + (T / m - S / n) * (T / m - S / n) * n * m / (n + m)
      = (P + Q) - (S + T) * (S + T) / (n + m) := by
  field_simp; ring

/-- Combining two accumulators that hold batch statistics yields the batch
statistics of the union — for every pair, including empty operands. -/
theorem combine_batch (d e : List Rat) : (batch d).combine (batch e) = batch (d ++ e) := by
  cases e with
  | nil => simp [St.combine, batch, St.zero]
  | cons y ys =>
    cases d with
    | nil => simp [St.combine, batch, St.zero]
    | cons x xs =>
      have hd : (x :: xs) ≠ [] := List.cons_ne_nil _ _
      have he : (y :: ys) ≠ [] := List.cons_ne_nil _ _
      have hde : (x :: xs) ++ (y :: ys) ≠ [] := List.cons_ne_nil _ _
      have hn := length_ne_zero hd
      have hm := length_ne_zero he
      have hnm : ((x :: xs).length : Rat) + ((y :: ys).length : Rat) ≠ 0 := by
        rw [← Nat.cast_add, ← List.length_append]; exact length_ne_zero hde
      rw [batch_nonempty _ hd, batch_nonempty _ he, batch_nonempty _ hde]
      unfold St.combine
      rw [if_neg (List.length_pos_iff.2 he).ne', if_neg (List.length_pos_iff.2 hd).ne', St.mk.injEq]
      refine ⟨List.length_append.symm, (sum_append _ _).symm, ?_, ?_, ?_, ?_, ?_⟩
      · rw [listMin_cons_append, ite_lt_eq_min]
      · rw [listMax_cons_append, ite_gt_eq_max]
      · simp only [batchMean, sum_append, List.length_append, Nat.cast_add]
        exact mean_combine hn hm hnm
      · simp only [batchMeanSq, List.map_append, sum_append, List.length_append, Nat.cast_add]
        exact mean_combine hn hm hnm
      · rw [batchM2_eq _ hd, batchM2_eq _ he, batchM2_eq _ hde]
        simp only [batchMean, sumSq_append, sum_append, List.length_append, Nat.cast_add]
        exact m2_combine hn hm hnm

lemma batch_singleton (x : Rat) : batch [x] = ⟨1, x, x, x, x, x * x, 0⟩ := by
  simp [batch, sum, listMin, listMax, batchMean, batchMeanSq, batchM2]

/-- On a non-empty accumulator `Add x` is `Combine` with the accumulator of the one-element stream
`[x]`: only the update of `m2` is written differently. -/
lemma add_eq_combine (s : St) (x : Rat) (h : s.count ≠ 0) : s.add x = s.combine (batch [x]) := by
  have hn : (s.count : Rat) + 1 ≠ 0 := by positivity
  rw [batch_singleton]
  unfold St.add St.combine
  simp only [if_neg h, one_ne_zero, if_false, St.mk.injEq, Nat.cast_one, mul_one, true_and, add_zero,
    Nat.cast_add]
  field_simp
  ring

/-- Adding one value to an accumulator that holds batch statistics yields the
batch statistics of the extended stream. -/
theorem add_batch (d : List Rat) (x : Rat) : (batch d).add x = batch (d ++ [x]) := by
  cases d with
  | nil => rw [List.nil_append, batch_singleton]; simp [St.add, batch, St.zero]
  | cons y ys =>
    rw [add_eq_combine _ _ (by rw [batch_nonempty _ (List.cons_ne_nil _ _)]; exact Nat.succ_ne_zero _),
      combine_batch]

/-- One history step preserves "every accumulator holds the batch statistics of
its denotation" (the multiset of values that flowed into it). -/
theorem step_good (h : Heap) (op : Op) (hg : ∀ p ∈ h, Good p) : ∀ p ∈ step h op, Good p := by
  have hget : ∀ i, Good (getD h i) := by
    intro i
    unfold getD
    rw [List.getD_eq_getElem?_getD]
    cases hi : h[i]? with
    | none => simp [Good, batch, St.zero]
    | some p => simp only [Option.getD_some]; exact hg p (List.mem_of_getElem? hi)
  intro p hp
  cases op with
  | read i => exact hg p hp
  | add i x =>
    simp only [step] at hp
    rcases List.mem_or_eq_of_mem_set hp with hp | hp
    · exact hg p hp
    · have := hget i
      unfold Good at this ⊢
      rw [hp]; simp only; rw [this]; exact add_batch _ _
  | comb i j =>
    simp only [step] at hp
    rcases List.mem_or_eq_of_mem_set hp with hp | hp
    · exact hg p hp
    · have h1 := hget i
      have h2 := hget j
      unfold Good at h1 h2 ⊢
      rw [hp]; simp only; rw [h1, h2]; exact combine_batch _ _

/-- **Main theorem.** After any history of Add and Combine over any number of
accumulators — every split, every merge tree, empty operands, self-combine —
each accumulator's state equals the batch statistics (count, total, min, max,
mean, mean of squares, sum of squared deviations) of the values that flowed
into it. -/
theorem run_good (n : Nat) (ops : List Op) : ∀ p ∈ run n ops, Good p := by
  unfold run
  have h0 : ∀ p ∈ List.replicate n (St.zero, ([] : List Rat)), Good p := by
    intro p hp; rw [List.eq_of_mem_replicate hp]; simp [Good, batch]
  generalize List.replicate n (St.zero, ([] : List Rat)) = h at h0
  induction ops generalizing h with
  | nil => simpa using h0
  | cons op ops ih => simp only [List.foldl_cons]; exact ih _ (step_good h op h0)

/-- The denotation is order-insensitive: batch statistics of a permutation agree
(so "however the sequence is split and in whatever order parts are combined"). -/
theorem batch_perm (d e : List Rat) (h : d.Perm e) : batch d = batch e := by
  have hsum : ∀ {a b : List Rat}, a.Perm b → sum a = sum b := fun hab => by
    rw [sum_eq, sum_eq, hab.sum_eq]
  cases d with
  | nil => rw [List.nil_perm.mp h]
  | cons x xs =>
    cases e with
    | nil => exact absurd (List.perm_nil.mp h) (List.cons_ne_nil _ _)
    | cons y ys =>
      have hd := List.cons_ne_nil x xs
      have he := List.cons_ne_nil y ys
      have hs := hsum h
      have hq : sumSq (x :: xs) = sumSq (y :: ys) := hsum (h.map _)
      rw [batch_nonempty _ hd, batch_nonempty _ he, St.mk.injEq]
      refine ⟨h.length_eq, hs, ?_, ?_, ?_, ?_, ?_⟩
      · rw [listMin_cons, listMin_cons]; exact foldl_perm_cons min h
      · rw [listMax_cons, listMax_cons]; exact foldl_perm_cons max h
      · rw [batchMean, batchMean, hs, h.length_eq]
      · rw [batchMeanSq, batchMeanSq, show sum _ = sum _ from hq, h.length_eq]
      · rw [batchM2_eq _ hd, batchM2_eq _ he, hs, hq, h.length_eq]

/-- The reported variance `m2 / (count − 1)` is the (n−1)-denominator sample variance of the
denotation (for `count < 2` both sides are the same division by `0` or `−1`). -/
theorem variance_batch (d : List Rat) :
    (batch d).variance = batchM2 d / ((d.length : Rat) - 1) := by
  cases d with
  | nil => simp [St.variance, batch, St.zero, batchM2, batchMean, sum]
  | cons x xs => simp [St.variance, batch]

/-- A concrete history with an empty operand, a merge and a self-combine. -/
example : (run 3 [.add 0 5, .add 0 7, .comb 1 0, .comb 1 2, .add 2 1, .comb 0 0, .read 0]).map (·.1.count) = [4, 2, 1] := by
  decide

end MV.Stream
