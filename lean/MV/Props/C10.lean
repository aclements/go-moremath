import Mathlib.Tactic
import MV.Props.C09
/-!
# C10 — quantiles: Hyndman–Fan type 8 (`r8`), `Sample.Quantile` of unweighted samples, the
weighted scan `wquant`
-/
namespace MV.Sample

/-! ## order statistics on ascending lists -/

lemma getD_eq (xs : List Rat) (i : Nat) (hi : i < xs.length) : xs.getD i 0 = xs[i] := by
  rw [List.getD_eq_getElem?_getD, List.getElem?_eq_getElem hi]; rfl

lemma asc_getD (xs : List Rat) (h : xs.Pairwise (· ≤ ·)) (i j : Nat) (hij : i ≤ j)
    (hj : j < xs.length) : xs.getD i 0 ≤ xs.getD j 0 := by
  rw [getD_eq _ _ hj, getD_eq _ _ (lt_of_le_of_lt hij hj)]
  rcases Nat.eq_or_lt_of_le hij with rfl | hlt
  · exact le_rfl
  · exact List.pairwise_iff_getElem.1 h i j _ hj hlt

lemma head!_eq_getD (xs : List Rat) (hne : xs ≠ []) : xs.head! = xs.getD 0 0 := by
  cases xs with
  | nil => exact absurd rfl hne
  | cons x r => simp

lemma getLast!_eq_getD (xs : List Rat) (hne : xs ≠ []) :
    xs.getLast! = xs.getD (xs.length - 1) 0 := by
  have hl : 0 < xs.length := List.length_pos_of_ne_nil hne
  rw [getLast!_eq_getLast xs hne, List.getLast_eq_getElem, getD_eq _ _ (by omega)]

/-- 1-based order statistic `x_(j)` with the index clamped to `[1, n]`. -/
def ordC (xs : List Rat) (j : Int) : Rat :=
  xs.getD ((max 1 (min j (xs.length : Int))).toNat - 1) 0

lemma ordC_of_le_one (xs : List Rat) (j : Int) (hj : j ≤ 1) : ordC xs j = xs.getD 0 0 := by
  unfold ordC
  rw [max_eq_left (min_le_of_left_le hj)]
  rfl

lemma ordC_of_length_le (xs : List Rat) (hne : xs ≠ []) (j : Int) (hj : (xs.length : Int) ≤ j) :
    ordC xs j = xs.getD (xs.length - 1) 0 := by
  unfold ordC
  rw [min_eq_right hj, max_eq_right (by exact_mod_cast List.length_pos_of_ne_nil hne),
    Int.toNat_natCast]

lemma ordC_of_mem (xs : List Rat) (j : Int) (h1 : 1 ≤ j) (h2 : j ≤ xs.length) :
    ordC xs j = xs.getD (j.toNat - 1) 0 := by
  unfold ordC
  rw [min_eq_left h2, max_eq_right h1]

lemma ordC_mono (xs : List Rat) (h : xs.Pairwise (· ≤ ·)) (hne : xs ≠ []) (j j' : Int)
    (hjj : j ≤ j') : ordC xs j ≤ ordC xs j' := by
  have hl : 0 < xs.length := List.length_pos_of_ne_nil hne
  unfold ordC
  apply asc_getD xs h <;> omega

/-- `r8` as a function of the real position `h = 1/3 + q (n + 1/3)`. -/
def r8h (xs : List Rat) (h : Rat) : Rat :=
  if h.floor ≤ 0 then xs.head!
  else if h.floor ≥ (xs.length : Int) then xs.getLast!
  else xs.getD (h.floor.toNat - 1) 0 +
    (h - h.floor) * (xs.getD h.floor.toNat 0 - xs.getD (h.floor.toNat - 1) 0)

lemma r8_eq_r8h (xs : List Rat) (q : Rat) :
    r8 xs q = r8h xs (1 / 3 + q * ((xs.length : Rat) + 1 / 3)) := rfl

/-- `x_(⌊h⌋) ≤ r8h h ≤ x_(⌊h⌋+1)` with clamped order statistics. -/
lemma r8h_bracket (xs : List Rat) (hasc : xs.Pairwise (· ≤ ·)) (hne : xs ≠ []) (h : Rat) :
    ordC xs h.floor ≤ r8h xs h ∧ r8h xs h ≤ ordC xs (h.floor + 1) := by
  unfold r8h
  split_ifs with h1 h2
  · rw [head!_eq_getD xs hne, ordC_of_le_one xs _ (by omega), ordC_of_le_one xs _ (by omega)]
    exact ⟨le_rfl, le_rfl⟩
  · rw [getLast!_eq_getD xs hne, ordC_of_length_le xs hne _ h2,
      ordC_of_length_le xs hne _ (by omega)]
    exact ⟨le_rfl, le_rfl⟩
  · rw [ordC_of_mem xs _ (by omega) (by omega), ordC_of_mem xs _ (by omega) (by omega),
      show (h.floor + 1).toNat - 1 = h.floor.toNat by omega]
    have hab : xs.getD (h.floor.toNat - 1) 0 ≤ xs.getD h.floor.toNat 0 :=
      asc_getD xs hasc _ _ (Nat.sub_le _ 1) (by omega)
    have t0 : 0 ≤ h - (h.floor : Rat) := sub_nonneg.2 (Int.floor_le h)
    have t1 : h - (h.floor : Rat) ≤ 1 := sub_le_iff_le_add'.2 (Int.lt_floor_add_one h).le
    exact ⟨le_add_of_nonneg_right (mul_nonneg t0 (sub_nonneg.2 hab)),
      le_sub_iff_add_le'.1 (mul_le_of_le_one_left (sub_nonneg.2 hab) t1)⟩

lemma r8h_mono (xs : List Rat) (hasc : xs.Pairwise (· ≤ ·)) (hne : xs ≠ []) (h h' : Rat)
    (hh : h ≤ h') : r8h xs h ≤ r8h xs h' := by
  have hk : h.floor ≤ h'.floor := Int.floor_mono hh
  rcases eq_or_lt_of_le hk with heq | hlt
  · unfold r8h
    rw [← heq]
    split_ifs with h1 h2
    · exact le_rfl
    · exact le_rfl
    · have hl : 0 < xs.length := List.length_pos_of_ne_nil hne
      have hab : xs.getD (h.floor.toNat - 1) 0 ≤ xs.getD h.floor.toNat 0 :=
        asc_getD xs hasc _ _ (by omega) (by omega)
      have := mul_le_mul_of_nonneg_right (sub_le_sub_right hh (h.floor : Rat)) (sub_nonneg.2 hab)
      linarith
  · calc r8h xs h ≤ ordC xs (h.floor + 1) := (r8h_bracket xs hasc hne h).2
      _ ≤ ordC xs h'.floor := ordC_mono xs hasc hne _ _ (by omega)
      _ ≤ r8h xs h' := (r8h_bracket xs hasc hne h').1

/-! ## Q1: `r8` -/

/-- On ascending non-empty data the R8 quantile lies between the first and the last element
(for every `q`, in particular for `0 < q < 1`). -/
theorem r8_bounds (xs : List Rat) (hasc : isAscending xs = true) (hne : xs ≠ []) (q : Rat) :
    xs.head! ≤ r8 xs q ∧ r8 xs q ≤ xs.getLast! := by
  rw [isAscending_iff] at hasc
  have hl : 0 < xs.length := List.length_pos_of_ne_nil hne
  rw [r8_eq_r8h]
  obtain ⟨h1, h2⟩ := r8h_bracket xs hasc hne (1 / 3 + q * ((xs.length : Rat) + 1 / 3))
  rw [head!_eq_getD xs hne, getLast!_eq_getD xs hne]
  constructor
  · refine le_trans ?_ h1
    unfold ordC
    exact asc_getD xs hasc _ _ (by omega) (by omega)
  · refine le_trans h2 ?_
    unfold ordC
    exact asc_getD xs hasc _ _ (by omega) (by omega)

example : (2 : Rat) ≤ r8 [2, 3, 5, 9] (1 / 2) ∧ r8 [2, 3, 5, 9] (1 / 2) ≤ 9 :=
  r8_bounds [2, 3, 5, 9] (by decide +kernel) (by simp) (1 / 2)

/-- On ascending non-empty data the R8 quantile is non-decreasing in `q` (in particular across the
break points where the interpolation switches segment). -/
theorem r8_mono (xs : List Rat) (hasc : isAscending xs = true) (hne : xs ≠ []) (q q' : Rat)
    (hq : q ≤ q') : r8 xs q ≤ r8 xs q' := by
  rw [isAscending_iff] at hasc
  rw [r8_eq_r8h, r8_eq_r8h]
  apply r8h_mono xs hasc hne
  have : (0 : Rat) ≤ (xs.length : Rat) + 1 / 3 := by positivity
  have := mul_le_mul_of_nonneg_right hq this
  linarith

example : r8 [2, 3, 5, 9] (1 / 4) ≤ r8 [2, 3, 5, 9] (3 / 4) :=
  r8_mono [2, 3, 5, 9] (by decide +kernel) (by simp) _ _ (by norm_num)
example : r8 [2, 3, 5, 9] (1 / 4) = 29 / 12 ∧ r8 [2, 3, 5, 9] (3 / 4) = 22 / 3 := by
  decide +kernel

/-- 1-based order statistic `x_(j)` of a list (0 outside the range). -/
def ord (xs : List Rat) (j : Nat) : Rat := xs.getD (j - 1) 0

/-- Definition of the type-8 quantile: with `h = (n + 1/3) q + 1/3`, if `1 ≤ ⌊h⌋ < n` then
`r8 xs q = x_(⌊h⌋) + (h - ⌊h⌋) (x_(⌊h⌋+1) - x_(⌊h⌋))` on 1-based order statistics; the value is the
first element if `⌊h⌋ < 1` and the last element if `⌊h⌋ ≥ n`. -/
theorem r8_def (xs : List Rat) (q : Rat) :
    let n : Nat := xs.length
    let h : Rat := ((n : Rat) + 1 / 3) * q + 1 / 3
    (1 ≤ ⌊h⌋ → ⌊h⌋ < (n : Int) →
      r8 xs q = ord xs ⌊h⌋.toNat + (h - (⌊h⌋ : Rat)) * (ord xs (⌊h⌋.toNat + 1) - ord xs ⌊h⌋.toNat)) ∧
    (⌊h⌋ < 1 → r8 xs q = xs.head!) ∧
    ((n : Int) ≤ ⌊h⌋ → r8 xs q = xs.getLast!) := by
  intro n h
  have hh : 1 / 3 + q * ((xs.length : Rat) + 1 / 3) = h := by simp only [h, n]; ring
  have hf : ⌊h⌋ = h.floor := rfl
  rw [r8_eq_r8h, hh, hf]
  unfold r8h ord
  refine ⟨fun h1 h2 => ?_, fun h1 => ?_, fun h1 => ?_⟩
  · rw [if_neg (by omega), if_neg (by omega)]
    simp
  · rw [if_pos (by omega)]
  · by_cases h2 : 1 ≤ h.floor
    · rw [if_neg (by omega), if_pos (by omega)]
    · have hn : xs.length = 0 := by omega
      have : xs = [] := List.length_eq_zero_iff.1 hn
      subst this
      rw [if_pos (by omega)]
      rfl

example : r8 [2, 3, 5, 9] (1 / 2) = 3 + (1 / 2) * (5 - 3) := by decide +kernel
example : r8 [2, 3, 5, 9] (1 / 2) = ord [2, 3, 5, 9] 2 + ((4 + 1 / 3) * (1 / 2) + 1 / 3 - 2) *
    (ord [2, 3, 5, 9] 3 - ord [2, 3, 5, 9] 2) := by
  decide +kernel
example : r8 [2, 3, 5, 9] (1 / 100) = 2 ∧ r8 [2, 3, 5, 9] (99 / 100) = 9 := by decide +kernel

/-! ## Q2/Q3: `Sample.Quantile` -/

lemma sort_none_ws (xs : List Rat) (b : Bool) : (S.sort ⟨xs, none, b⟩).ws = none := by
  unfold S.sort
  split_ifs <;> rfl

lemma sort_none_xs_asc (xs : List Rat) : (S.sort ⟨xs, none, false⟩).xs.Pairwise (· ≤ ·) := by
  rw [← isAscending_iff]
  exact (sort_ascending' ⟨xs, none, false⟩ (by simp)).1

lemma sort_none_xs_perm (xs : List Rat) : (S.sort ⟨xs, none, false⟩).xs.Perm xs :=
  sort_xs_perm ⟨xs, none, false⟩ (by simp)

lemma quantile_unweighted_unsorted (xs : List Rat) (q : Rat) :
    S.quantile ⟨xs, none, false⟩ q =
      if xs.isEmpty then none
      else if q ≤ 0 then some (minL xs)
      else if q ≥ 1 then some (maxL xs)
      else some (r8 (S.sort ⟨xs, none, false⟩).xs q) := by
  unfold S.quantile
  simp only [S.bounds, Bool.false_eq_true, if_false]
  split_ifs with h1 h2 h3
  · rfl
  · rfl
  · rfl
  · have := sort_none_ws xs false
    generalize S.sort ⟨xs, none, false⟩ = t at this ⊢
    obtain ⟨txs, tws, tb⟩ := t
    simp only at this
    subst this
    rfl

lemma quantile_unweighted_sorted (xs : List Rat) (q : Rat) :
    S.quantile ⟨xs, none, true⟩ q =
      if xs.isEmpty then none
      else if q ≤ 0 then some xs.head!
      else if q ≥ 1 then some xs.getLast!
      else some (r8 xs q) := by
  unfold S.quantile
  simp only [S.bounds, if_true]
  split_ifs <;> rfl

/-- End points of `Quantile` for non-empty unweighted samples: `q ≤ 0` gives the minimum and
`q ≥ 1` the maximum, both on the general path (`sorted = false`) and, for ascending data, on the
fast path (`sorted = true`). -/
theorem quantile_ends (xs : List Rat) (hne : xs ≠ []) (q : Rat) :
    (q ≤ 0 → S.quantile ⟨xs, none, false⟩ q = some (minL xs)) ∧
    (1 ≤ q → S.quantile ⟨xs, none, false⟩ q = some (maxL xs)) ∧
    (isAscending xs = true →
      (q ≤ 0 → S.quantile ⟨xs, none, true⟩ q = some (minL xs)) ∧
      (1 ≤ q → S.quantile ⟨xs, none, true⟩ q = some (maxL xs))) := by
  have he : xs.isEmpty = false := by simpa using hne
  refine ⟨fun h => ?_, fun h => ?_, fun hasc => ⟨fun h => ?_, fun h => ?_⟩⟩
  · rw [quantile_unweighted_unsorted, he]; simp [h]
  · have h0 : ¬ q ≤ 0 := by linarith
    rw [quantile_unweighted_unsorted, he]; simp [h0, h]
  · rw [isAscending_iff] at hasc
    rw [quantile_unweighted_sorted, he, head!_eq_minL xs hasc hne]; simp [h]
  · rw [isAscending_iff] at hasc
    have h0 : ¬ q ≤ 0 := by linarith
    rw [quantile_unweighted_sorted, he, getLast!_eq_maxL xs hasc hne]; simp [h0, h]

example : S.quantile ⟨[3, 1, 2], none, false⟩ 0 = some 1 ∧
    S.quantile ⟨[3, 1, 2], none, false⟩ 1 = some 3 := by
  have := quantile_ends [3, 1, 2] (by simp)
  exact ⟨by rw [(this 0).1 le_rfl]; decide +kernel, by rw [(this 1).2.1 le_rfl]; decide +kernel⟩

/-- `Quantile` of an unweighted, not-flagged sample does not depend on the order of the data. -/
theorem quantile_perm {xs ys : List Rat} (h : xs.Perm ys) (q : Rat) :
    S.quantile ⟨xs, none, false⟩ q = S.quantile ⟨ys, none, false⟩ q := by
  rw [quantile_unweighted_unsorted, quantile_unweighted_unsorted, minL_perm h, maxL_perm h]
  have he : xs.isEmpty = ys.isEmpty := by
    cases xs <;> cases ys <;> simp_all
  have hs : (S.sort ⟨xs, none, false⟩).xs = (S.sort ⟨ys, none, false⟩).xs :=
    List.Perm.eq_of_pairwise' (sort_none_xs_asc xs) (sort_none_xs_asc ys)
      ((sort_none_xs_perm xs).trans (h.trans (sort_none_xs_perm ys).symm))
  rw [he, hs]

example : S.quantile ⟨[3, 1, 4, 2], none, false⟩ (1 / 3) = S.quantile ⟨[1, 2, 3, 4], none, false⟩ (1 / 3) :=
  quantile_perm (by decide) _
example : S.quantile ⟨[3, 1, 4, 2], none, false⟩ (1 / 3) = some (16 / 9) := by decide +kernel

/-- On ascending data the `Sorted` flag does not change `Quantile` (unweighted). -/
theorem quantile_sorted_flag (xs : List Rat) (hasc : isAscending xs = true) (q : Rat) :
    S.quantile ⟨xs, none, true⟩ q = S.quantile ⟨xs, none, false⟩ q := by
  rw [quantile_unweighted_unsorted, quantile_unweighted_sorted]
  by_cases hne : xs = []
  · subst hne; rfl
  · have hs : (S.sort ⟨xs, none, false⟩).xs = xs := by
      unfold S.sort; simp [hasc]
    rw [isAscending_iff] at hasc
    rw [hs, head!_eq_minL xs hasc hne, getLast!_eq_maxL xs hasc hne]

example : S.quantile ⟨[1, 2, 3, 4], none, true⟩ (1 / 3) = S.quantile ⟨[1, 2, 3, 4], none, false⟩ (1 / 3) :=
  quantile_sorted_flag _ (by decide +kernel) _

/-- `Quantile` of an empty sample is NaN. -/
theorem quantile_empty (w : Option (List Rat)) (b : Bool) (q : Rat) :
    S.quantile ⟨[], w, b⟩ q = none := by
  unfold S.quantile; rfl

example : S.quantile ⟨[], some [1], true⟩ (1 / 2) = none := quantile_empty _ _ _

/-! ## Q4: weighted quantile -/

/-- cumulative weight of the first `m` pairs -/
def cumw (ps : List (Rat × Rat)) (m : Nat) : Rat := ((ps.take m).map (·.2)).sum

lemma cumw_zero (ps : List (Rat × Rat)) : cumw ps 0 = 0 := by simp [cumw]
lemma cumw_cons_succ (p : Rat × Rat) (ps : List (Rat × Rat)) (m : Nat) :
    cumw (p :: ps) (m + 1) = p.2 + cumw ps m := by simp [cumw]

lemma wquant_go_spec (r : List (Rat × Rat)) (t last : Rat) :
    (∀ i (hi : i < r.length), (∀ j < i, cumw r (j + 1) ≤ t) → t < cumw r (i + 1) →
      wquant.go r t last = r[i].1) ∧
    ((∀ j < r.length, cumw r (j + 1) ≤ t) →
      wquant.go r t last = (r.getLast?.map (·.1)).getD last) := by
  induction r generalizing t last with
  | nil => exact ⟨fun i hi => absurd hi (Nat.not_lt_zero i), fun _ => rfl⟩
  | cons p r ih =>
    obtain ⟨x, w⟩ := p
    have hgo : wquant.go ((x, w) :: r) t last
        = if t - w < 0 then x else wquant.go r (t - w) x := rfl
    have hc : ∀ m, cumw ((x, w) :: r) (m + 1) = w + cumw r m := fun m => cumw_cons_succ _ _ _
    rw [hgo]
    simp only [hc]
    constructor
    · rintro (_ | i) hi hbefore hat
      · rw [cumw_zero, add_zero] at hat
        rw [if_pos (sub_neg.2 hat)]
        rfl
      · have h0 := hbefore 0 (Nat.succ_pos i)
        rw [cumw_zero, add_zero] at h0
        rw [if_neg (not_lt.2 (sub_nonneg.2 h0))]
        exact (ih (t - w) x).1 i (Nat.lt_of_succ_lt_succ hi)
          (fun j hj => le_sub_iff_add_le'.2 (hbefore (j + 1) (Nat.succ_lt_succ hj)))
          (sub_lt_iff_lt_add'.2 hat)
    · intro hall
      have h0 := hall 0 (Nat.succ_pos _)
      rw [cumw_zero, add_zero] at h0
      rw [if_neg (not_lt.2 (sub_nonneg.2 h0)),
        (ih (t - w) x).2 fun j hj => le_sub_iff_add_le'.2 (hall (j + 1) (Nat.succ_lt_succ hj))]
      cases r with
      | nil => rfl
      | cons p' r' =>
        rw [List.getLast?_cons_cons, List.getLast?_eq_some_getLast (List.cons_ne_nil p' r')]
        rfl

/-- Specification of the weighted quantile scan: `wquant ps t` is the value of the first pair at
which the inclusive cumulative weight exceeds `t`; if no cumulative weight exceeds `t` it is the
last value; and it is `0` on the empty list.  (No sign condition on the weights is needed for
this "first index" form; see `wquant_spec_pos` for the bracketing form with positive weights.) -/
theorem wquant_spec (ps : List (Rat × Rat)) (t : Rat) :
    (ps = [] → wquant ps t = 0) ∧
    (∀ i (hi : i < ps.length), (∀ j < i, cumw ps (j + 1) ≤ t) → t < cumw ps (i + 1) →
      wquant ps t = ps[i].1) ∧
    (∀ hne : ps ≠ [], (∀ j < ps.length, cumw ps (j + 1) ≤ t) →
      wquant ps t = (ps.getLast hne).1) := by
  refine ⟨?_, ?_, ?_⟩
  · rintro rfl; rfl
  · exact (wquant_go_spec ps t 0).1
  · intro hne hall
    show wquant.go ps t 0 = _
    rw [(wquant_go_spec ps t 0).2 hall, List.getLast?_eq_some_getLast hne]
    rfl

example : wquant [(1, 2), (4, -1), (6, 3)] (3 / 2) = 1 :=
  (wquant_spec [(1, 2), (4, -1), (6, 3)] (3 / 2)).2.1 0 (by simp) (by simp) (by decide +kernel)
example : wquant [] 5 = 0 := (wquant_spec [] 5).1 rfl

lemma cumw_succ (ps : List (Rat × Rat)) (m : Nat) (hm : m < ps.length) :
    cumw ps (m + 1) = cumw ps m + ps[m].2 := by
  unfold cumw
  rw [List.take_add_one, List.getElem?_eq_getElem hm, List.map_append, List.sum_append]
  simp

lemma cumw_mono (ps : List (Rat × Rat)) (hpos : ∀ p ∈ ps, 0 < p.2) (a b : Nat) (hab : a ≤ b)
    (hb : b ≤ ps.length) : cumw ps a ≤ cumw ps b := by
  induction b with
  | zero =>
    have : a = 0 := by omega
    subst this; exact le_rfl
  | succ b ih =>
    rcases Nat.eq_or_lt_of_le hab with rfl | hlt
    · exact le_rfl
    · have := ih (by omega) (by omega)
      rw [cumw_succ ps b (by omega)]
      have := hpos ps[b] (List.getElem_mem _)
      linarith

/-- With positive weights: if `cumw i ≤ t < cumw (i+1)` then `wquant ps t` is the `i`-th value,
and if `t` is at least the total weight it is the last value. -/
theorem wquant_spec_pos (ps : List (Rat × Rat)) (hpos : ∀ p ∈ ps, 0 < p.2) (t : Rat) :
    (∀ i (hi : i < ps.length), cumw ps i ≤ t → t < cumw ps (i + 1) → wquant ps t = ps[i].1) ∧
    (∀ hne : ps ≠ [], cumw ps ps.length ≤ t → wquant ps t = (ps.getLast hne).1) := by
  obtain ⟨_, h2, h3⟩ := wquant_spec ps t
  constructor
  · intro i hi hle hlt
    apply h2 i hi _ hlt
    intro j hj
    exact (cumw_mono ps hpos (j + 1) i (by omega) (by omega)).trans hle
  · intro hne hle
    apply h3 hne
    intro j hj
    exact (cumw_mono ps hpos (j + 1) ps.length (by omega) le_rfl).trans hle

example : wquant [(1, 2), (4, 1), (6, 3)] (5 / 2) = 4 :=
  (wquant_spec_pos [(1, 2), (4, 1), (6, 3)] (by decide +kernel) (5 / 2)).1 1 (by simp)
    (by decide +kernel) (by decide +kernel)
example : wquant [(1, 2), (4, 1), (6, 3)] 6 = 6 :=
  (wquant_spec_pos [(1, 2), (4, 1), (6, 3)] (by decide +kernel) 6).2 (by simp) (by decide +kernel)

end MV.Sample
