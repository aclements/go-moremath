import Mathlib.Tactic
import MV.Model.Discrete
/-!
# C06 — binomial and hypergeometric distributions (exact rational models)
-/
namespace MV.Discrete
open MV.UDist (chooseFast)
open Finset

/-! ## the fast helpers agree with Mathlib -/

lemma chooseLoop_eq_choose (n j : Nat) (hj : j ≤ n) :
    (List.range j).foldl (fun acc i => acc * (n - i) / (i + 1)) 1 = Nat.choose n j := by
  induction j with
  | zero => simp
  | succ j ih =>
    rw [List.range_succ, List.foldl_append, ih (by omega)]
    simp only [List.foldl_cons, List.foldl_nil]
    rw [← Nat.choose_succ_right_eq]
    exact Nat.mul_div_cancel _ (Nat.succ_pos j)

/-- The multiplicative "fast" binomial coefficient used by the executable models equals
Mathlib's `Nat.choose` for all arguments. -/
theorem chooseFast_eq_choose (n k : Nat) : MV.UDist.chooseFast n k = Nat.choose n k := by
  unfold MV.UDist.chooseFast
  split_ifs with h1 h2
  · exact (Nat.choose_eq_zero_of_lt h1).symm
  · simp only []
    rw [chooseLoop_eq_choose n (n - k) (by omega)]
    exact Nat.choose_symm (by omega)
  · exact chooseLoop_eq_choose n k (by omega)

example : MV.UDist.chooseFast 10 7 = 120 := by rw [chooseFast_eq_choose]; decide

/-- Square-and-multiply exponentiation equals the ordinary power `q ^ n`. -/
theorem rpowFast_eq (q : Rat) (n : Nat) : rpowFast q n = q ^ n := by
  induction n using Nat.strong_induction_on with
  | _ n ih =>
    cases n with
    | zero => rw [rpowFast]; simp
    | succ n =>
      rw [rpowFast]
      rw [ih ((n + 1) / 2) (by omega)]
      split_ifs with h
      · rw [← pow_add]; congr 1
        have : (n + 1) % 2 = 0 := by simpa using h
        omega
      · rw [← pow_add, ← pow_succ]; congr 1
        have : ¬ (n + 1) % 2 = 0 := by simpa using h
        omega

example : rpowFast (2/3) 5 = 32/243 := by rw [rpowFast_eq]; norm_num

/-- The reference (linear fold) power `rpow` also equals `q ^ n`, hence equals `rpowFast`. -/
theorem rpow_eq (q : Rat) (n : Nat) : rpow q n = q ^ n := by
  unfold rpow
  rw [List.foldl_const, List.length_range, mul_right_iterate]; exact one_mul _

example : rpow (2/3) 5 = rpowFast (2/3) 5 := by rw [rpow_eq, rpowFast_eq]

/-! ## binomial PMF -/

lemma binomPMF_natCast (n : Nat) (p : ℚ) (k : Nat) :
    binomPMF n p (k : Int) = (Nat.choose n k : ℚ) * p ^ k * (1 - p) ^ (n - k) := by
  unfold binomPMF
  split_ifs with h
  · have : n < k := by omega
    rw [Nat.choose_eq_zero_of_lt this]; simp
  · simp only [Int.toNat_natCast, chooseFast_eq_choose, rpowFast_eq]

/-- Inside the support `0 ≤ k ≤ n` the model PMF is the textbook formula
`C(n,k) p^k (1-p)^(n-k)`. -/
theorem binomPMF_eq (n : Nat) (p : ℚ) (k : Nat) (_hk : k ≤ n) :
    binomPMF n p (k : Int) = (Nat.choose n k : ℚ) * p ^ k * (1 - p) ^ (n - k) :=
  binomPMF_natCast n p k

example : binomPMF 4 (1/3) (2 : Nat) = 8/27 := by
  rw [binomPMF_eq 4 (1/3) 2 (by decide)]; norm_num [Nat.choose]

theorem binomPMF_eq_zero (n : Nat) (p : ℚ) (k : Int) (hk : k < 0 ∨ k > n) :
    binomPMF n p k = 0 := by
  unfold binomPMF; rw [if_pos hk]

example : binomPMF 4 (1/3) 5 = 0 := binomPMF_eq_zero 4 (1/3) 5 (by decide)
example : binomPMF 4 (1/3) (-1) = 0 := binomPMF_eq_zero 4 (1/3) (-1) (by decide)

/-- The binomial PMF sums to one over `0..n` for every rational `p` (binomial theorem). -/
theorem binomPMF_sum (n : Nat) (p : ℚ) :
    ∑ k ∈ range (n + 1), binomPMF n p (k : Int) = 1 := by
  have h := add_pow p (1 - p) n
  rw [show p + (1 - p) = 1 by ring, one_pow] at h
  rw [h]; apply sum_congr rfl; intro k _; rw [binomPMF_natCast]; ring

example : ∑ k ∈ range (5 + 1), binomPMF 5 (2/7) (k : Int) = 1 := binomPMF_sum 5 (2/7)

/-- For a probability `0 ≤ p ≤ 1` the binomial PMF is non-negative at every integer. -/
theorem binomPMF_nonneg (n : Nat) (p : ℚ) (h0 : 0 ≤ p) (h1 : p ≤ 1) (k : Int) :
    0 ≤ binomPMF n p k := by
  by_cases hk : k < 0 ∨ k > n
  · rw [binomPMF_eq_zero n p k hk]
  · obtain ⟨m, rfl⟩ := Int.eq_ofNat_of_zero_le (by omega : 0 ≤ k)
    rw [binomPMF_natCast]
    have := sub_nonneg.2 h1
    exact mul_nonneg (mul_nonneg (Nat.cast_nonneg _) (pow_nonneg h0 _)) (pow_nonneg this _)

example : 0 ≤ binomPMF 7 (3/5) 4 := binomPMF_nonneg 7 (3/5) (by norm_num) (by norm_num) 4

/-- For `0 < p < 1` the support of the binomial PMF is exactly `0 ≤ k ≤ n`. -/
theorem binomPMF_ne_zero_iff (n : Nat) (p : ℚ) (h0 : 0 < p) (h1 : p < 1) (k : Int) :
    binomPMF n p k ≠ 0 ↔ 0 ≤ k ∧ k ≤ n := by
  constructor
  · intro h
    by_contra hc
    exact h (binomPMF_eq_zero n p k (by omega))
  · rintro ⟨hk0, hkn⟩
    obtain ⟨m, rfl⟩ := Int.eq_ofNat_of_zero_le hk0
    rw [binomPMF_natCast]
    have hm : m ≤ n := by omega
    have hc : (0 : ℚ) < (n.choose m : ℚ) := by exact_mod_cast Nat.choose_pos hm
    have hq : (0 : ℚ) < 1 - p := sub_pos.2 h1
    exact (mul_pos (mul_pos hc (pow_pos h0 _)) (pow_pos hq _)).ne'

example : binomPMF 4 (1/3) 4 ≠ 0 :=
  (binomPMF_ne_zero_iff 4 (1/3) (by norm_num) (by norm_num) 4).2 (by decide)

/-! ## binomial CDF -/

lemma foldl_add_eq_sum (f : Nat → ℚ) (m : Nat) :
    ((List.range m).map f).foldl (· + ·) 0 = ∑ i ∈ range m, f i := by
  induction m with
  | zero => simp
  | succ m ih =>
    rw [List.range_succ, List.map_append, List.foldl_append, ih, sum_range_succ]
    simp

lemma binomPMF_sum_ge (n : Nat) (p : ℚ) (m : Nat) (hm : n + 1 ≤ m) :
    ∑ k ∈ range m, binomPMF n p (k : Int) = 1 := by
  rw [← binomPMF_sum n p]
  symm
  apply sum_subset (range_subset_range.2 hm)
  intro x _ hx
  apply binomPMF_eq_zero
  right
  have : ¬ x < n + 1 := by simpa using hx
  omega

/-- uniform description of the CDF at every integer -/
lemma binomCDF_eq_sum_all (n : Nat) (p : ℚ) (k : Int) :
    binomCDF n p k = ∑ i ∈ range (k + 1).toNat, binomPMF n p (i : Int) := by
  unfold binomCDF
  split_ifs with h1 h2
  · have : (k + 1).toNat = 0 := by omega
    rw [this]; simp
  · rw [binomPMF_sum_ge n p _ (by omega)]
  · rw [foldl_add_eq_sum (fun i => binomPMF n p (i : Int))]
    congr 2; omega

/-- For `0 ≤ k` the model CDF is the partial sum of the PMF over `0..k`.  (The model
short-circuits to `1` for `k ≥ n`; the partial-sum formula gives the same value there,
in particular at `k = n`.) -/
theorem binomCDF_eq_sum (n : Nat) (p : ℚ) (k : Int) (h0 : 0 ≤ k) :
    binomCDF n p k = ∑ i ∈ range (k.toNat + 1), binomPMF n p (i : Int) := by
  rw [binomCDF_eq_sum_all]; congr 2; omega

example : binomCDF 4 (1/3) 2 = ∑ i ∈ range 3, binomPMF 4 (1/3) (i : Int) :=
  binomCDF_eq_sum 4 (1/3) 2 (by decide)

theorem binomCDF_of_neg (n : Nat) (p : ℚ) (k : Int) (hk : k < 0) : binomCDF n p k = 0 := by
  unfold binomCDF; rw [if_pos hk]

theorem binomCDF_of_ge (n : Nat) (p : ℚ) (k : Int) (hk : k ≥ n) : binomCDF n p k = 1 := by
  rw [binomCDF_eq_sum_all, binomPMF_sum_ge n p _ (by omega)]

example : binomCDF 4 (1/3) (-3) = 0 := binomCDF_of_neg _ _ _ (by decide)
example : binomCDF 4 (1/3) 4 = 1 := binomCDF_of_ge _ _ _ (by decide)

/-- Consistency at the boundary `k = n`: the partial-sum formula also yields `1`. -/
theorem binomCDF_sum_at_n (n : Nat) (p : ℚ) :
    ∑ i ∈ range ((n : Int).toNat + 1), binomPMF n p (i : Int) = 1 :=
  binomPMF_sum n p

example : ∑ i ∈ range (((3 : Nat) : Int).toNat + 1), binomPMF 3 (1/2) (i : Int) = 1 :=
  binomCDF_sum_at_n 3 (1/2)

/-- For `0 ≤ k` the CDF jumps by exactly the PMF: `CDF(k) - CDF(k-1) = PMF(k)`
(for every rational `p`, also across the short-circuit boundary `k ≥ n`). -/
theorem binomCDF_step (n : Nat) (p : ℚ) (k : Int) (h0 : 0 ≤ k) :
    binomCDF n p k - binomCDF n p (k - 1) = binomPMF n p k := by
  rw [binomCDF_eq_sum_all, binomCDF_eq_sum_all]
  obtain ⟨m, rfl⟩ := Int.eq_ofNat_of_zero_le h0
  have e1 : ((m : Int) + 1).toNat = m + 1 := by omega
  have e2 : ((m : Int) - 1 + 1).toNat = m := by omega
  rw [e1, e2, sum_range_succ]; ring

example : binomCDF 5 (1/4) 5 - binomCDF 5 (1/4) 4 = binomPMF 5 (1/4) 5 :=
  binomCDF_step 5 (1/4) 5 (by decide)

/-- For a probability `0 ≤ p ≤ 1` the CDF is monotone in `k`. -/
theorem binomCDF_mono (n : Nat) (p : ℚ) (h0 : 0 ≤ p) (h1 : p ≤ 1) (j k : Int) (hjk : j ≤ k) :
    binomCDF n p j ≤ binomCDF n p k := by
  rw [binomCDF_eq_sum_all, binomCDF_eq_sum_all]
  apply sum_le_sum_of_subset_of_nonneg
  · apply range_subset_range.2; omega
  · intro i _ _; exact binomPMF_nonneg n p h0 h1 i

example : binomCDF 6 (2/3) 1 ≤ binomCDF 6 (2/3) 4 :=
  binomCDF_mono 6 (2/3) (by norm_num) (by norm_num) 1 4 (by decide)

/-- For a probability `0 ≤ p ≤ 1` the CDF takes values in `[0,1]`. -/
theorem binomCDF_mem_unit (n : Nat) (p : ℚ) (h0 : 0 ≤ p) (h1 : p ≤ 1) (k : Int) :
    0 ≤ binomCDF n p k ∧ binomCDF n p k ≤ 1 := by
  constructor
  · rw [binomCDF_eq_sum_all]; exact sum_nonneg (fun i _ => binomPMF_nonneg n p h0 h1 i)
  · rw [← binomCDF_of_ge n p (max k n) (le_max_right _ _)]
    exact binomCDF_mono n p h0 h1 _ _ (le_max_left _ _)

example : 0 ≤ binomCDF 6 (2/3) 3 ∧ binomCDF 6 (2/3) 3 ≤ 1 :=
  binomCDF_mem_unit 6 (2/3) (by norm_num) (by norm_num) 3

/-! ## absorption; binomial moments -/

/-- `(k+1)·C(K,k+1) = K·C(K-1,k)`, for every `K` (both sides vanish at `K = 0`) -/
lemma succ_mul_choose_succ (K k : Nat) :
    ((k + 1 : Nat) : ℚ) * K.choose (k + 1) = K * (K - 1).choose k := by
  cases K with
  | zero => simp
  | succ n =>
    rw [Nat.add_sub_cancel, mul_comm]
    exact_mod_cast (Nat.add_one_mul_choose_eq n k).symm

/-- Absorption under a sum: `Σ_{k<D} k·C(K,k)·g k = K·Σ_{k<D-1} C(K-1,k)·g (k+1)`. The first two moments
of the binomial and of the hypergeometric distribution are instances. -/
lemma sum_mul_choose (K D : Nat) (g : Nat → ℚ) :
    ∑ k ∈ range D, (k : ℚ) * ((K.choose k : ℚ) * g k)
      = K * ∑ k ∈ range (D - 1), ((K - 1).choose k : ℚ) * g (k + 1) := by
  cases D with
  | zero => simp
  | succ d =>
    rw [sum_range_succ', Nat.cast_zero, zero_mul, add_zero, Nat.add_sub_cancel, mul_sum]
    refine sum_congr rfl fun k _ => ?_
    linear_combination g (k + 1) * succ_mul_choose_succ K k

lemma binom_absorb (n : Nat) (p : ℚ) (f : Nat → ℚ) :
    ∑ k ∈ range (n + 2), (k : ℚ) * (f k * binomPMF (n + 1) p (k : Int))
      = ((n : ℚ) + 1) * p * ∑ k ∈ range (n + 1), f (k + 1) * binomPMF n p (k : Int) := by
  have e : ∀ k ∈ range (n + 2), (k : ℚ) * (f k * binomPMF (n + 1) p (k : Int))
      = k * (((n + 1).choose k : ℚ) * (f k * (p ^ k * (1 - p) ^ (n + 1 - k)))) := by
    intro k _; rw [binomPMF_natCast]; ring
  rw [sum_congr rfl e, sum_mul_choose, mul_sum, mul_sum]
  refine sum_congr rfl fun k _ => ?_
  rw [binomPMF_natCast, Nat.add_sub_cancel, Nat.add_sub_add_right, pow_succ]
  push_cast
  ring

/-- The mean of the binomial PMF is `n p` (for every rational `p`). -/
theorem binom_mean (n : Nat) (p : ℚ) :
    ∑ k ∈ range (n + 1), (k : ℚ) * binomPMF n p (k : Int) = binomMean n p := by
  unfold binomMean
  cases n with
  | zero => simp
  | succ n =>
    have h := binom_absorb n p fun _ => 1
    simp only [one_mul] at h
    rw [h, binomPMF_sum]; push_cast; ring

example : ∑ k ∈ range (5 + 1), (k : ℚ) * binomPMF 5 (2/7) (k : Int) = 10/7 := by
  rw [binom_mean]; norm_num [binomMean]

/-- second factorial moment `E[k(k-1)] = n(n-1)p²` -/
lemma binom_factorial_moment_two (n : Nat) (p : ℚ) :
    ∑ k ∈ range (n + 1), (k : ℚ) * ((k : ℚ) - 1) * binomPMF n p (k : Int)
      = n * ((n : ℚ) - 1) * p ^ 2 := by
  cases n with
  | zero => simp
  | succ n =>
    simp only [mul_assoc]
    rw [binom_absorb n p fun k => (k : ℚ) - 1]
    simp only [Nat.cast_succ, add_sub_cancel_right]
    rw [binom_mean, binomMean]; ring

/-- second central moment about any `μ` from the factorial moments:
`Σ(k-μ)²w = Σk(k-1)w + (1-2μ)Σkw + μ²Σw` -/
lemma sum_sq_sub_mul (s : Finset Nat) (w : Nat → ℚ) (μ : ℚ) :
    ∑ k ∈ s, ((k : ℚ) - μ) ^ 2 * w k
      = ∑ k ∈ s, (k : ℚ) * ((k : ℚ) - 1) * w k + (1 - 2 * μ) * ∑ k ∈ s, (k : ℚ) * w k
        + μ ^ 2 * ∑ k ∈ s, w k := by
  rw [mul_sum, mul_sum, ← sum_add_distrib, ← sum_add_distrib]
  exact sum_congr rfl fun k _ => by ring

/-- The variance of the binomial PMF (second central moment about `n p`) is `n p (1-p)`
(for every rational `p`). -/
theorem binom_var (n : Nat) (p : ℚ) :
    ∑ k ∈ range (n + 1), ((k : ℚ) - n * p) ^ 2 * binomPMF n p (k : Int) = binomVar n p := by
  rw [sum_sq_sub_mul, binom_factorial_moment_two, binom_mean, binomPMF_sum]
  unfold binomMean binomVar; ring

example : ∑ k ∈ range (5 + 1), ((k : ℚ) - (5 : Nat) * (2/7)) ^ 2 * binomPMF 5 (2/7) (k : Int)
    = 50/49 := by
  rw [binom_var]; norm_num [binomVar]

/-! ## hypergeometric distribution -/

lemma vandermonde (a b D : Nat) :
    ∑ k ∈ range (D + 1), ((a.choose k : ℚ) * (b.choose (D - k))) = ((a + b).choose D : ℚ) := by
  rw [Nat.add_choose_eq, Finset.Nat.sum_antidiagonal_eq_sum_range_succ_mk]; push_cast; rfl

/-- With `K ≤ N`, for every `0 ≤ k ≤ D` (in particular on the support
`hypLo ≤ k ≤ hypHi`) the model PMF is the textbook formula
`C(K,k) C(N-K,D-k) / C(N,D)`. -/
theorem hypPMF_eq (N K D k : Nat) (hK : K ≤ N) (hkD : k ≤ D) :
    hypPMF N K D (k : Int)
      = (K.choose k : ℚ) * ((N - K).choose (D - k)) / (N.choose D) := by
  unfold hypPMF
  split_ifs with h
  · unfold hypLo hypHi at h
    rcases h with h | h
    · have : N - K < D - k := by omega
      rw [Nat.choose_eq_zero_of_lt this]; simp
    · have : K < k := by omega
      rw [Nat.choose_eq_zero_of_lt this]; simp
  · simp only [Int.toNat_natCast, chooseFast_eq_choose]; push_cast; rfl

example : hypPMF 10 4 5 (2 : Nat) = 10/21 := by
  rw [hypPMF_eq 10 4 5 2 (by decide) (by decide)]; norm_num [Nat.choose]

theorem hypPMF_eq_zero (N K D : Nat) (k : Int)
    (hk : k < hypLo N K D ∨ k > hypHi N K D) : hypPMF N K D k = 0 := by
  unfold hypPMF; rw [if_pos hk]

example : hypPMF 10 8 5 2 = 0 := hypPMF_eq_zero 10 8 5 2 (by decide)

/-- With `K ≤ N`, `D ≤ N` the model PMF is strictly positive on `[hypLo, hypHi]`. -/
theorem hypPMF_pos (N K D : Nat) (hK : K ≤ N) (hD : D ≤ N) (k : Int)
    (hlo : (hypLo N K D : Int) ≤ k) (hhi : k ≤ hypHi N K D) : 0 < hypPMF N K D k := by
  obtain ⟨m, rfl⟩ := Int.eq_ofNat_of_zero_le (by omega : 0 ≤ k)
  unfold hypLo at hlo; unfold hypHi at hhi
  rw [hypPMF_eq N K D m hK (by omega)]
  have h1 : (0 : ℚ) < (K.choose m : ℚ) := by exact_mod_cast Nat.choose_pos (by omega)
  have h2 : (0 : ℚ) < ((N - K).choose (D - m) : ℚ) := by
    exact_mod_cast Nat.choose_pos (by omega)
  have h3 : (0 : ℚ) < (N.choose D : ℚ) := by exact_mod_cast Nat.choose_pos hD
  exact div_pos (mul_pos h1 h2) h3

example : 0 < hypPMF 10 8 5 3 := hypPMF_pos 10 8 5 (by decide) (by decide) 3 (by decide) (by decide)

/-- With `K ≤ N`, `D ≤ N` the support of the PMF is exactly `[hypLo, hypHi]`. -/
theorem hypPMF_ne_zero_iff (N K D : Nat) (hK : K ≤ N) (hD : D ≤ N) (k : Int) :
    hypPMF N K D k ≠ 0 ↔ (hypLo N K D : Int) ≤ k ∧ k ≤ hypHi N K D := by
  constructor
  · intro h
    by_contra hc
    exact h (hypPMF_eq_zero N K D k (by omega))
  · rintro ⟨h1, h2⟩
    exact (hypPMF_pos N K D hK hD k h1 h2).ne'

example : hypPMF 10 8 5 2 = 0 ∧ hypPMF 10 8 5 3 ≠ 0 :=
  ⟨by
    have := (hypPMF_ne_zero_iff 10 8 5 (by decide) (by decide) 2).not
    rw [not_not] at this; exact this.2 (by decide),
   (hypPMF_ne_zero_iff 10 8 5 (by decide) (by decide) 3).2 (by decide)⟩

/-- any finite index set containing the support gives the same weighted sum -/
lemma hyp_sum_support (N K D : Nat) (f : Nat → ℚ) (s : Finset Nat)
    (hs : Icc (hypLo N K D) (hypHi N K D) ⊆ s) :
    ∑ k ∈ s, f k * hypPMF N K D (k : Int)
      = ∑ k ∈ Icc (hypLo N K D) (hypHi N K D), f k * hypPMF N K D (k : Int) := by
  symm
  apply sum_subset hs
  intro x _ hx
  rw [hypPMF_eq_zero, mul_zero]
  rw [mem_Icc] at hx
  omega

lemma hyp_Icc_subset_range (N K D : Nat) :
    Icc (hypLo N K D) (hypHi N K D) ⊆ range (D + 1) := by
  intro x hx
  rw [mem_Icc] at hx
  unfold hypHi at hx
  rw [mem_range]; omega

lemma hyp_sum_range (N K D : Nat) (hK : K ≤ N) (f : Nat → ℚ) :
    ∑ k ∈ Icc (hypLo N K D) (hypHi N K D), f k * hypPMF N K D (k : Int)
      = (∑ k ∈ range (D + 1), f k * ((K.choose k : ℚ) * ((N - K).choose (D - k))))
          / (N.choose D) := by
  rw [← hyp_sum_support N K D f _ (hyp_Icc_subset_range N K D), sum_div]
  apply sum_congr rfl
  intro k hk
  rw [hypPMF_eq N K D k hK (by rw [mem_range] at hk; omega)]; ring

/-- With `K ≤ N`, `D ≤ N` the hypergeometric PMF sums to one over its support
(Vandermonde's identity). -/
theorem hypPMF_sum (N K D : Nat) (hK : K ≤ N) (hD : D ≤ N) :
    ∑ k ∈ Icc (hypLo N K D) (hypHi N K D), hypPMF N K D (k : Int) = 1 := by
  have h := hyp_sum_range N K D hK (fun _ => 1)
  simp only [one_mul] at h
  rw [h, vandermonde, Nat.add_sub_cancel' hK]
  have h3 : (0 : ℚ) < (N.choose D : ℚ) := by exact_mod_cast Nat.choose_pos hD
  exact div_self h3.ne'

example : ∑ k ∈ Icc (hypLo 10 8 5) (hypHi 10 8 5), hypPMF 10 8 5 (k : Int) = 1 :=
  hypPMF_sum 10 8 5 (by decide) (by decide)

/-- uniform description of the CDF at every integer -/
lemma hypCDF_eq_sum_all (N K D : Nat) (hK : K ≤ N) (hD : D ≤ N) (k : Int) :
    hypCDF N K D k = ∑ i ∈ range (k + 1).toNat, hypPMF N K D (i : Int) := by
  unfold hypCDF
  split_ifs with h1 h2
  · symm; apply sum_eq_zero
    intro i hi
    rw [mem_range] at hi
    apply hypPMF_eq_zero; left; omega
  · have hs : Icc (hypLo N K D) (hypHi N K D) ⊆ range (k + 1).toNat := by
      intro x hx
      rw [mem_Icc] at hx; rw [mem_range]; omega
    have := hyp_sum_support N K D (fun _ => 1) _ hs
    simp only [one_mul] at this
    rw [this, hypPMF_sum N K D hK hD]
  · rw [foldl_add_eq_sum (fun i => hypPMF N K D (i : Int))]
    congr 2; omega

/-- With `K ≤ N`, `D ≤ N`, for `0 ≤ k` the model CDF is the partial sum of the PMF over `0..k`
(this covers both short-circuit branches `k < hypLo` ↦ 0 and `k ≥ hypHi` ↦ 1). -/
theorem hypCDF_eq_sum (N K D : Nat) (hK : K ≤ N) (hD : D ≤ N) (k : Int) (h0 : 0 ≤ k) :
    hypCDF N K D k = ∑ i ∈ range (k.toNat + 1), hypPMF N K D (i : Int) := by
  rw [hypCDF_eq_sum_all N K D hK hD]; congr 2; omega

lemma hypCDF_natCast (N K D : Nat) (hK : K ≤ N) (hD : D ≤ N) (k : Nat) :
    hypCDF N K D (k : Int) = ∑ i ∈ range (k + 1), hypPMF N K D (i : Int) := by
  rw [hypCDF_eq_sum N K D hK hD _ (Int.natCast_nonneg k), Int.toNat_natCast]

example : hypCDF 10 8 5 4 = ∑ i ∈ range 5, hypPMF 10 8 5 (i : Int) :=
  hypCDF_eq_sum 10 8 5 (by decide) (by decide) 4 (by decide)

theorem hypCDF_of_lt (N K D : Nat) (k : Int) (hk : k < hypLo N K D) : hypCDF N K D k = 0 := by
  unfold hypCDF; rw [if_pos hk]

/-- The CDF is `1` from `hypHi` on (when `hypLo ≤ k`, automatic for `K ≤ N`, `D ≤ N`). -/
theorem hypCDF_of_ge (N K D : Nat) (hK : K ≤ N) (hD : D ≤ N) (k : Int)
    (hk : k ≥ hypHi N K D) : hypCDF N K D k = 1 := by
  unfold hypCDF
  have : ¬ k < hypLo N K D := by
    unfold hypLo; unfold hypHi at hk; omega
  rw [if_neg this, if_pos hk]

example : hypCDF 10 8 5 2 = 0 := hypCDF_of_lt 10 8 5 2 (by decide)
example : hypCDF 10 8 5 5 = 1 := hypCDF_of_ge 10 8 5 (by decide) (by decide) 5 (by decide)

/-- With `K ≤ N`, `D ≤ N`, for `0 ≤ k`: `CDF(k) - CDF(k-1) = PMF(k)`. -/
theorem hypCDF_step (N K D : Nat) (hK : K ≤ N) (hD : D ≤ N) (k : Int) (h0 : 0 ≤ k) :
    hypCDF N K D k - hypCDF N K D (k - 1) = hypPMF N K D k := by
  rw [hypCDF_eq_sum_all N K D hK hD, hypCDF_eq_sum_all N K D hK hD]
  obtain ⟨m, rfl⟩ := Int.eq_ofNat_of_zero_le h0
  have e1 : ((m : Int) + 1).toNat = m + 1 := by omega
  have e2 : ((m : Int) - 1 + 1).toNat = m := by omega
  rw [e1, e2, sum_range_succ]; ring

example : hypCDF 10 8 5 3 - hypCDF 10 8 5 2 = hypPMF 10 8 5 3 :=
  hypCDF_step 10 8 5 (by decide) (by decide) 3 (by decide)

/-- With `K ≤ N`, `D ≤ N` the CDF is monotone. -/
theorem hypCDF_mono (N K D : Nat) (hK : K ≤ N) (hD : D ≤ N) (j k : Int) (hjk : j ≤ k) :
    hypCDF N K D j ≤ hypCDF N K D k := by
  rw [hypCDF_eq_sum_all N K D hK hD, hypCDF_eq_sum_all N K D hK hD]
  apply sum_le_sum_of_subset_of_nonneg
  · apply range_subset_range.2; omega
  · intro i _ _
    by_cases h : ((i : Int) < hypLo N K D ∨ (i : Int) > hypHi N K D)
    · rw [hypPMF_eq_zero N K D i h]
    · exact (hypPMF_pos N K D hK hD i (by omega) (by omega)).le

example : hypCDF 10 8 5 3 ≤ hypCDF 10 8 5 4 :=
  hypCDF_mono 10 8 5 (by decide) (by decide) 3 4 (by decide)

/-! ### hypergeometric moments -/

/-- first raw moment numerator, division-free -/
lemma hyp_moment_one_num (K b D : Nat) :
    (∑ k ∈ range (D + 1), (k : ℚ) * ((K.choose k : ℚ) * (b.choose (D - k)))) * ((K : ℚ) + b)
      = (D : ℚ) * K * ((K + b).choose D) := by
  rw [sum_mul_choose, Nat.add_sub_cancel]
  rcases K with _ | a
  · simp only [Nat.cast_zero, zero_mul, mul_zero]
  rcases D with _ | d
  · simp only [Nat.cast_zero, sum_range_zero, zero_mul, mul_zero]
  have h := succ_mul_choose_succ (a + b + 1) d
  simp only [Nat.add_sub_cancel, Nat.add_sub_add_right] at h ⊢
  rw [vandermonde, Nat.add_right_comm a 1 b]
  push_cast at h ⊢
  linear_combination -((a : ℚ) + 1) * h

/-- second factorial moment numerator, division-free: one more absorption, then `hyp_moment_one_num` -/
lemma hyp_factorial_moment_two_num (K b D : Nat) :
    (∑ k ∈ range (D + 1),
        ((k : ℚ) * ((k : ℚ) - 1)) * ((K.choose k : ℚ) * (b.choose (D - k))))
        * (((K : ℚ) + b) * ((K : ℚ) + b - 1))
      = (D : ℚ) * ((D : ℚ) - 1) * (K * ((K : ℚ) - 1)) * ((K + b).choose D) := by
  have e : ∀ k ∈ range (D + 1),
      ((k : ℚ) * ((k : ℚ) - 1)) * ((K.choose k : ℚ) * (b.choose (D - k)))
        = k * ((K.choose k : ℚ) * (((k : ℚ) - 1) * b.choose (D - k))) := fun k _ => by ring
  rw [sum_congr rfl e, sum_mul_choose, Nat.add_sub_cancel]
  rcases K with _ | a
  · simp only [Nat.cast_zero, zero_mul, mul_zero]
  rcases D with _ | d
  · simp only [Nat.cast_zero, sum_range_zero, zero_mul, mul_zero]
  have h := succ_mul_choose_succ (a + b + 1) d
  have h1 := hyp_moment_one_num a b d
  simp only [Nat.add_sub_cancel, Nat.add_sub_add_right, Nat.cast_succ, add_sub_cancel_right] at h ⊢
  rw [sum_congr rfl fun k _ => mul_left_comm (a.choose k : ℚ) (k : ℚ) (b.choose (d - k) : ℚ),
    Nat.add_right_comm a 1 b]
  generalize ∑ k ∈ range (d + 1), (k : ℚ) * ((a.choose k : ℚ) * (b.choose (d - k))) = S at h1 ⊢
  push_cast at h ⊢
  linear_combination ((a : ℚ) + 1) * ((a : ℚ) + b + 1) * h1 - (d : ℚ) * ((a : ℚ) + 1) * a * h

/-- With `K ≤ N`, `D ≤ N`, `1 ≤ N` the mean of the hypergeometric PMF is `D K / N`. -/
theorem hyp_mean (N K D : Nat) (hK : K ≤ N) (hD : D ≤ N) (hN : 1 ≤ N) :
    ∑ k ∈ Icc (hypLo N K D) (hypHi N K D), (k : ℚ) * hypPMF N K D (k : Int)
      = hypMean N K D := by
  rw [hyp_sum_range N K D hK]
  unfold hypMean
  obtain ⟨b, rfl⟩ := Nat.exists_eq_add_of_le hK
  rw [Nat.add_sub_cancel_left]
  have h3 : (0 : ℚ) < ((K + b).choose D : ℚ) := by exact_mod_cast Nat.choose_pos hD
  have hN' : (0 : ℚ) < ((K + b : Nat) : ℚ) := by exact_mod_cast hN
  rw [div_eq_div_iff h3.ne' hN'.ne']
  have := hyp_moment_one_num K b D
  push_cast at this ⊢
  linear_combination this

example : ∑ k ∈ Icc (hypLo 10 8 5) (hypHi 10 8 5), (k : ℚ) * hypPMF 10 8 5 (k : Int) = 4 := by
  rw [hyp_mean 10 8 5 (by decide) (by decide) (by decide)]; norm_num [hypMean]

/-- `E[k(k-1)] + (1 - 2μ) μ + μ²` with `μ = dk/n`, `n = k + b`, is the hypergeometric variance -/
lemma hyp_var_algebra (k b d : ℚ) (hn : k + b ≠ 0) (hn1 : k + b - 1 ≠ 0) :
    d * (d - 1) * (k * (k - 1)) / ((k + b) * (k + b - 1))
        + (1 - 2 * (d * k / (k + b))) * (d * k / (k + b)) + (d * k / (k + b)) ^ 2 * 1
      = d * k * b * (k + b - d) / ((k + b) * (k + b) * (k + b - 1)) := by
  field_simp
  ring

/-- With `K ≤ N`, `D ≤ N`, `2 ≤ N` the variance of the hypergeometric PMF (second central
moment about `hypMean`) is `D K (N-K) (N-D) / (N² (N-1))`. -/
theorem hyp_var (N K D : Nat) (hK : K ≤ N) (hD : D ≤ N) (hN : 2 ≤ N) :
    ∑ k ∈ Icc (hypLo N K D) (hypHi N K D),
        ((k : ℚ) - hypMean N K D) ^ 2 * hypPMF N K D (k : Int)
      = hypVar N K D := by
  rw [sum_sq_sub_mul, hyp_mean N K D hK hD (by omega), hypPMF_sum N K D hK hD,
    hyp_sum_range N K D hK]
  unfold hypMean hypVar
  obtain ⟨b, rfl⟩ := Nat.exists_eq_add_of_le hK
  rw [Nat.add_sub_cancel_left]
  have h3 : (0 : ℚ) < ((K + b).choose D : ℚ) := by exact_mod_cast Nat.choose_pos hD
  have hN0 : (0 : ℚ) < (K : ℚ) + b := by exact_mod_cast (by omega : 0 < K + b)
  have hN1 : (0 : ℚ) < (K : ℚ) + b - 1 := by
    have : (2 : ℚ) ≤ (K : ℚ) + b := by exact_mod_cast hN
    linarith
  have key := hyp_factorial_moment_two_num K b D
  have hS := eq_div_of_mul_eq (mul_pos hN0 hN1).ne' key
  rw [hS]
  push_cast [Nat.cast_sub hD, Nat.cast_sub (by omega : 1 ≤ K + b)]
  rw [div_div, mul_div_mul_right _ _ h3.ne']
  exact hyp_var_algebra _ _ _ hN0.ne' hN1.ne'

example : ∑ k ∈ Icc (hypLo 10 8 5) (hypHi 10 8 5),
    ((k : ℚ) - hypMean 10 8 5) ^ 2 * hypPMF 10 8 5 (k : Int) = 4/9 := by
  rw [hyp_var 10 8 5 (by decide) (by decide) (by decide)]; norm_num [hypVar]

/-- The variance identity also holds in the degenerate cases `N ≤ 1` (where the model's
`hypVar` divides by zero and returns `0`, which is the true variance of a constant). -/
theorem hyp_var_small (N K D : Nat) (hK : K ≤ N) (hD : D ≤ N) (hN : N < 2) :
    ∑ k ∈ Icc (hypLo N K D) (hypHi N K D),
        ((k : ℚ) - hypMean N K D) ^ 2 * hypPMF N K D (k : Int)
      = hypVar N K D := by
  interval_cases N <;> interval_cases K <;> interval_cases D <;> decide +kernel

/-- The mean identity also holds for `N = 0` (both sides are `0`). -/
theorem hyp_mean_zero :
    ∑ k ∈ Icc (hypLo 0 0 0) (hypHi 0 0 0), (k : ℚ) * hypPMF 0 0 0 (k : Int) = hypMean 0 0 0 := by
  simp [hypLo, hypHi, hypMean]

example : ∑ k ∈ Icc (hypLo 1 1 1) (hypHi 1 1 1),
    ((k : ℚ) - hypMean 1 1 1) ^ 2 * hypPMF 1 1 1 (k : Int) = hypVar 1 1 1 :=
  hyp_var_small 1 1 1 (by decide) (by decide) (by decide)

end MV.Discrete
