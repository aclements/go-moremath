import MV.Props.FactsHolds
/-! Source facts the C06 model relies on (checked against the facts regenerated from /repo on every run). -/
namespace MV.Facts

def expectedC06 : List (String × String) := [("mathx.smallFactLimit", "20")]

/-- the constants and literals the C06 model mirrors are still what the source says -/
theorem facts_C06 : holdsAll expectedC06 = true := by decide +kernel


/-- State that outlives a call, as extracted from the source on this run: the package-level
variables of the packages this property's code lives in, the functions (other than `init`) that
assign to them or call methods on them, and the fields of the property's struct types. The model is
a pure function of the arguments and of these fields; a new variable, writer or field is state the
model does not know of. The digest-valued `shape:` entry covers everything the call graph
(resolved by go/types) reaches from the functions declared in the property's anchor files: per
function, method (with receiver kind), package variable and constant, its numeric literals, its comparison operators, the
package variables it reads and its writes through parameters or the receiver (including in-place
`sort.*`/`copy`/`append`). The entries behind the digest are in `shape_expected.txt` and in a
comment of the generated file. -/
def stateC06 : List (String × String) := [("globals:stats", "ErrMismatchedSamples ErrSampleSize ErrSamplesEqual ErrZeroVariance MannWhitneyExactLimit MannWhitneyTiesExactLimit StdNormal _KDEBoundaryMethod_index _KDEKernel_index _LocationHypothesis_index inf nan quantileCIApproxThreshold"), ("globals:mathx", "nan smallFact"), ("globalwrites:stats", "MannWhitneyUTest:StdNormal.CDF"), ("globalwrites:mathx", ""), ("fields:stats.BinomialDist", "N:int P:float64"), ("fields:stats.HypergeometicDist", "N:int K:int Draws:int"), ("shape:C06", "n=28 fnv64a=f837ac788299de49")]

/-- the source has exactly the package-level variables, writers and struct fields the model accounts for -/
theorem state_C06 : holdsAll stateC06 = true := by
  repeat (refine holdsAll_cons rfl ?_)
  exact holdsAll_nil

end MV.Facts
