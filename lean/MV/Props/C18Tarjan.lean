import Mathlib.Tactic
import MV.Model.Graph
import MV.Props.C18Reach
/-!
# C18 — Tarjan's SCC algorithm (mirror of graphalg/scc.go) is correct

`connect` is unfolded into its primitive state changes (`push`, `record`, `setLow`, `popc`); the
invariant `Inv` is preserved by each; `Post` says what one call guarantees and `Loop` is the
invariant of its successor loop (`connect_spec`).  The final state is then accepted by the checker
of C18Reach (`holds_of_final`), from which the results about `tarjan` are read off:

* T0 the output is accepted by `holdsSCC`;
* S1 the fuel suffices, every node is assigned, the components partition the nodes;
* S2 nodes of one component are mutually reachable; S3 mutually reachable nodes share a component;
* S4 component indices never increase along an edge (or a path);
* S5 each out-list is the sorted list of the other components entered by an edge.
-/
namespace MV.Graph

/-! ## unfolding `connect` -/

/-- low value of a node (0 = unvisited) -/
def lw (st : TState) (v : Nat) : Nat := st.low.getD v 0
/-- component id of a node -/
def co (st : TState) (v : Nat) : Nat := st.compOf.getD v 0

/-- entering a node: number it and push it -/
def push (st : TState) (nid : Nat) : TState :=
  { st with low := st.low.setIfInBounds nid st.index, index := st.index + 1, stack := nid :: st.stack }

/-- record an out-edge to an already finished component -/
def record (st : TState) (oid pos : Nat) : TState :=
  { st with outStack := (st.compOf.getD oid 0, pos) :: st.outStack }

/-- one iteration of the successor loop -/
def cstep (g : G) (fuel pos : Nat) (acc : TState × Nat) (oid : Nat) : TState × Nat :=
  let st := if acc.1.low.getD oid 0 == 0 then connect g fuel oid acc.1 else acc.1
  (if st.low.getD oid 0 == sentinel g then record st oid pos else st,
   if st.low.getD oid 0 < acc.2 then st.low.getD oid 0 else acc.2)

/-- non-root exit: lower the low-link -/
def setLow (st : TState) (nid mn : Nat) : TState := { st with low := st.low.setIfInBounds nid mn }

/-- root exit: pop the component -/
def popc (g : G) (nid : Nat) (st : TState) : TState :=
  let members := ((st.stack.span (· != nid)).1 ++ [nid]).reverse
  let rest := (st.stack.span (· != nid)).2.drop 1
  { st with
    low := members.foldl (fun a v => a.setIfInBounds v (sentinel g)) st.low,
    stack := rest,
    comps := members :: st.comps,
    compOf := members.foldl (fun a v => a.setIfInBounds v st.comps.length) st.compOf,
    outStack := (st.outStack.span (fun e => e.2 ≥ rest.length)).2,
    outs := dedupSorted (sortNat ((st.outStack.span (fun e => e.2 ≥ rest.length)).1.map (·.1))) :: st.outs }

def finish (g : G) (nid myLow : Nat) (acc : TState × Nat) : TState :=
  if acc.2 < myLow then setLow acc.1 nid acc.2 else popc g nid acc.1

lemma connect_zero (g : G) (nid : Nat) (st : TState) : connect g 0 nid st = st := rfl

lemma connect_succ (g : G) (fuel nid : Nat) (st : TState) :
    connect g (fuel + 1) nid st =
      finish g nid st.index ((out g nid).foldl (cstep g fuel st.stack.length) (push st nid, st.index)) := by
  rfl

/-! ## helpers: `span`, low values after an update, the measure `unv` -/

lemma span_append_of {α} (p : α → Bool) (l1 l2 : List α) (h1 : ∀ a ∈ l1, p a = true)
    (h2 : ∀ a ∈ l2.head?, p a = false) : (l1 ++ l2).span p = (l1, l2) := by
  rw [List.span_eq_takeWhile_dropWhile, List.takeWhile_append_of_pos h1,
    List.dropWhile_append_of_pos h1]
  cases l2 with
  | nil => simp
  | cons a l2 =>
    have : p a = false := h2 a (by simp)
    simp [this]

lemma lw_push (st : TState) (nid v : Nat) (h : nid < st.low.size) :
    lw (push st nid) v = if v = nid then st.index else lw st v :=
  getD_setIfInBounds_of_lt st.low v _ 0 h

lemma lw_setLow (st : TState) (nid mn v : Nat) (h : nid < st.low.size) :
    lw (setLow st nid mn) v = if v = nid then mn else lw st v :=
  getD_setIfInBounds_of_lt st.low v _ 0 h

lemma lw_lt_size (st : TState) (v : Nat) (h : lw st v ≠ 0) : v < st.low.size :=
  not_le.1 fun hge => h (getD_of_size_le st.low v 0 hge)

/-- number of unvisited nodes -/
def unv (g : G) (st : TState) : Nat := ((Finset.range g.size).filter fun x => lw st x = 0).card

lemma unv_le_size (g : G) (st : TState) : unv g st ≤ g.size := count_le

lemma unv_mono (g : G) (s t : TState) (h : ∀ x, lw s x ≠ 0 → lw t x ≠ 0) : unv g t ≤ unv g s :=
  count_mono fun x hx => by_contra fun hs => h x hs hx

lemma unv_lt (g : G) (s t : TState) (h : ∀ x, lw s x ≠ 0 → lw t x ≠ 0)
    (v : Nat) (hv : v < g.size) (hsv : lw s v = 0) (htv : lw t v ≠ 0) : unv g t < unv g s :=
  count_lt (fun x hx => by_contra fun hs => h x hs hx) hv hsv htv

/-! ## the invariant -/

/-- the out-list `o` of a finished component `c` is right -/
def OutOK (g : G) (st : TState) (c o : List Nat) : Prop :=
  o.Pairwise (· < ·) ∧ ∀ d, d ∈ o ↔ ∃ u ∈ c, ∃ v ∈ out g u, co st v = d ∧ d ≠ co st u

/-- invariant of the algorithm; `gr` is the list of nodes whose `connect` call is active -/
structure Inv (g : G) (gr : List Nat) (st : TState) : Prop where
  lowsz : st.low.size = g.size
  cosz : st.compOf.size = g.size
  nodup : st.stack.Nodup
  onstack : ∀ v, v ∈ st.stack ↔ (lw st v ≠ 0 ∧ lw st v ≠ sentinel g)
  lowlt : ∀ v ∈ st.stack, lw st v < st.index
  idx1 : 1 ≤ st.index
  idx : st.index + unv g st ≤ g.size + 1
  spath : st.stack.Pairwise (fun a b => Path g b a)
  grsub : ∀ z ∈ gr, z ∈ st.stack
  -- every stack node reaches an active node whose low value is no larger
  wit : ∀ y ∈ st.stack, ∃ z ∈ gr, lw st z ≤ lw st y ∧ Path g y z
  -- a visited node without active call has no unvisited successor ("black to white")
  b2w : ∀ u, lw st u ≠ 0 → u ∉ gr → ∀ v ∈ out g u, lw st v ≠ 0
  cflat : ∀ v, v ∈ st.comps.flatten ↔ lw st v = sentinel g
  cnodup : st.comps.flatten.Nodup
  cne : ∀ c ∈ st.comps, c ≠ []
  -- `compOf` of a finished node is the position of its component, counted from the oldest
  cof : ∀ cs1 c cs2, st.comps = cs1 ++ c :: cs2 → ∀ v ∈ c, co st v = cs2.length
  cstrong : ∀ c ∈ st.comps, ∀ u ∈ c, ∀ v ∈ c, Path g u v
  ctopo : ∀ u, lw st u = sentinel g → ∀ v ∈ out g u, lw st v = sentinel g ∧ co st v ≤ co st u
  -- recorded out-edges carry a valid stack position; one out-list per component, each the right one
  opos : ∀ e ∈ st.outStack, e.2 < st.stack.length
  olen : st.outs.length = st.comps.length
  ook : ∀ cs1 c cs2, st.comps = cs1 ++ c :: cs2 → OutOK g st c (st.outs.getD cs1.length [])

lemma Inv.idx_lt {g : G} {gr : List Nat} {st : TState} (h : Inv g gr st) : st.index < sentinel g := by
  have := h.idx; unfold sentinel; omega

lemma OutOK_congr (g : G) (st st' : TState) (c o : List Nat)
    (hc : ∀ u ∈ c, lw st u = sentinel g)
    (htopo : ∀ u, lw st u = sentinel g → ∀ v ∈ out g u, lw st v = sentinel g ∧ co st v ≤ co st u)
    (hco : ∀ x, lw st x = sentinel g → co st' x = co st x) (h : OutOK g st c o) : OutOK g st' c o := by
  refine ⟨h.1, ?_⟩
  intro d
  rw [h.2 d]
  constructor
  · rintro ⟨u, hu, v, hv, rfl, hne⟩
    have h1 := hc u hu
    have h2 := (htopo u h1 v hv).1
    exact ⟨u, hu, v, hv, hco v h2, by rw [hco u h1]; exact hne⟩
  · rintro ⟨u, hu, v, hv, rfl, hne⟩
    have h1 := hc u hu
    have h2 := (htopo u h1 v hv).1
    exact ⟨u, hu, v, hv, (hco v h2).symm, by rw [hco u h1] at hne; exact hne⟩

lemma push_inv (g : G) (gr : List Nat) (st : TState) (nid : Nat) (h : Inv g gr st)
    (hn : nid < g.size) (h0 : lw st nid = 0) (hp : ∀ z ∈ gr, Path g z nid) :
    Inv g (nid :: gr) (push st nid) := by
  have hsz : nid < st.low.size := by rw [h.lowsz]; exact hn
  have hlw : ∀ v, lw (push st nid) v = if v = nid then st.index else lw st v :=
    fun v => lw_push st nid v hsz
  have hco : ∀ v, co (push st nid) v = co st v := fun v => rfl
  have hnotin : nid ∉ st.stack := by
    intro hm; exact ((h.onstack nid).1 hm).1 h0
  have hidx := h.idx_lt
  have hmono : ∀ x, lw st x ≠ 0 → lw (push st nid) x ≠ 0 := by
    intro x hx; rw [hlw]; split_ifs with e
    · have := h.idx1; omega
    · exact hx
  have hsent : ∀ v, lw (push st nid) v = sentinel g ↔ lw st v = sentinel g := by
    intro v; rw [hlw]; split_ifs with e
    · subst e; rw [h0]; constructor
      · intro e; omega
      · intro e; unfold sentinel at e; omega
    · rfl
  exact
  { h with
    lowsz := by simp [push, h.lowsz]
    nodup := List.nodup_cons.2 ⟨hnotin, h.nodup⟩
    onstack := by
      intro v
      show v ∈ nid :: st.stack ↔ _
      rw [List.mem_cons, hlw]
      by_cases e : v = nid
      · subst e
        simp only [true_or, if_true, true_iff]
        have := h.idx1
        exact ⟨by omega, by omega⟩
      · simp only [e, false_or, if_false]; exact h.onstack v
    lowlt := by
      intro v hv
      show _ < st.index + 1
      rw [hlw]
      split_ifs with e
      · omega
      · rcases List.mem_cons.1 hv with hv | hv
        · exact absurd hv e
        · have := h.lowlt v hv; omega
    idx1 := by show 1 ≤ st.index + 1; omega
    idx := by
      show st.index + 1 + unv g (push st nid) ≤ g.size + 1
      have := unv_lt g st (push st nid) hmono nid hn h0 (by rw [hlw]; simp; have := h.idx1; omega)
      have := h.idx
      omega
    spath := by
      show (nid :: st.stack).Pairwise _
      rw [List.pairwise_cons]
      refine ⟨?_, h.spath⟩
      intro b hb
      obtain ⟨z, hz, -, hbz⟩ := h.wit b hb
      exact hbz.trans (hp z hz)
    grsub := by
      intro z hz
      show z ∈ nid :: st.stack
      rcases List.mem_cons.1 hz with rfl | hz
      · simp
      · exact List.mem_cons_of_mem _ (h.grsub z hz)
    wit := by
      intro y hy
      rcases List.mem_cons.1 hy with rfl | hy
      · exact ⟨y, by simp, le_rfl, Relation.ReflTransGen.refl⟩
      · obtain ⟨z, hz, hle, hyz⟩ := h.wit y hy
        refine ⟨z, by simp [hz], ?_, hyz⟩
        have hzn : z ≠ nid := fun e => hnotin (e ▸ h.grsub z hz)
        have hyn : y ≠ nid := fun e => hnotin (e ▸ hy)
        rw [hlw, hlw, if_neg hzn, if_neg hyn]; exact hle
    b2w := by
      intro u hu hug v hv
      have hun : u ≠ nid := fun e => hug (by simp [e])
      have hug' : u ∉ gr := fun e => hug (by simp [e])
      rw [hlw, if_neg hun] at hu
      exact hmono v (h.b2w u hu hug' v hv)
    cflat := by intro v; rw [hsent]; exact h.cflat v
    ctopo := by
      intro u hu v hv
      rw [hsent] at hu ⊢
      exact h.ctopo u hu v hv
    opos := by
      intro e he
      show e.2 < (nid :: st.stack).length
      have := h.opos e he
      simp; omega }

lemma record_inv (g : G) (gr : List Nat) (st : TState) (oid pos : Nat) (h : Inv g gr st)
    (hpos : pos < st.stack.length) : Inv g gr (record st oid pos) :=
  { h with
    opos := by
      intro e he
      rcases List.mem_cons.1 he with rfl | he
      · exact hpos
      · exact h.opos e he }

lemma setLow_inv (g : G) (gr : List Nat) (st : TState) (nid mn : Nat) (h : Inv g (nid :: gr) st)
    (hng : nid ∉ gr) (hmn0 : 0 < mn) (hmn : mn < lw st nid)
    (hw : ∃ z ∈ gr, lw st z ≤ mn ∧ Path g nid z) (hsucc : ∀ v ∈ out g nid, lw st v ≠ 0) :
    Inv g gr (setLow st nid mn) := by
  have hns : nid ∈ st.stack := h.grsub nid (by simp)
  have hsz : nid < st.low.size := lw_lt_size st nid ((h.onstack nid).1 hns).1
  have hlw : ∀ v, lw (setLow st nid mn) v = if v = nid then mn else lw st v :=
    fun v => lw_setLow st nid mn v hsz
  have hidx := h.idx_lt
  have hnl := h.lowlt nid hns
  have hzero : ∀ v, lw (setLow st nid mn) v = 0 ↔ lw st v = 0 := by
    intro v; rw [hlw]; split_ifs with e
    · subst e; constructor <;> intro e <;> omega
    · rfl
  have hsent : ∀ v, lw (setLow st nid mn) v = sentinel g ↔ lw st v = sentinel g := by
    intro v; rw [hlw]; split_ifs with e
    · subst e; constructor <;> intro e <;> omega
    · rfl
  exact
  { h with
    lowsz := by simp [setLow, h.lowsz]
    onstack := by
      intro v
      show v ∈ st.stack ↔ _
      rw [h.onstack v, ne_eq, ne_eq, ne_eq, ne_eq, hzero, hsent]
    lowlt := by
      intro v hv
      show _ < st.index
      rw [hlw]; split_ifs with e
      · omega
      · exact h.lowlt v hv
    idx := by
      show st.index + unv g (setLow st nid mn) ≤ g.size + 1
      have := unv_mono g st (setLow st nid mn) (fun x hx => by rw [ne_eq, hzero]; exact hx)
      have := h.idx
      omega
    grsub := fun z hz => h.grsub z (by simp [hz])
    wit := by
      intro y hy
      obtain ⟨z', hz', hle', hp'⟩ := hw
      have hz'n : z' ≠ nid := fun e => hng (e ▸ hz')
      obtain ⟨z, hz, hle, hyz⟩ := h.wit y hy
      by_cases hyn : y = nid
      · subst hyn
        refine ⟨z', hz', ?_, hp'⟩
        rw [hlw, hlw, if_neg hz'n, if_pos rfl]; exact hle'
      · rcases List.mem_cons.1 hz with rfl | hzg
        · refine ⟨z', hz', ?_, hyz.trans hp'⟩
          rw [hlw, hlw, if_neg hz'n, if_neg hyn]; omega
        · have hzn : z ≠ nid := fun e => hng (e ▸ hzg)
          refine ⟨z, hzg, ?_, hyz⟩
          rw [hlw, hlw, if_neg hzn, if_neg hyn]; exact hle
    b2w := by
      intro u hu hug v hv
      rw [ne_eq, hzero] at hu ⊢
      by_cases hun : u = nid
      · subst hun; exact hsucc v hv
      · exact h.b2w u hu (by simp [hun, hug]) v hv
    cflat := by intro v; rw [hsent]; exact h.cflat v
    ctopo := by
      intro u hu v hv
      rw [hsent] at hu ⊢
      exact h.ctopo u hu v hv }

/-- the state after popping, in terms of the decomposition of the two stacks -/
def popped (g : G) (st : TState) (nid : Nat) (new rest : List Nat) (newE oldE : List (Nat × Nat)) : TState :=
  { st with
    low := ((new ++ [nid]).reverse).foldl (fun a v => a.setIfInBounds v (sentinel g)) st.low,
    stack := rest,
    comps := (new ++ [nid]).reverse :: st.comps,
    compOf := ((new ++ [nid]).reverse).foldl (fun a v => a.setIfInBounds v st.comps.length) st.compOf,
    outStack := oldE,
    outs := dedupSorted (sortNat (newE.map (·.1))) :: st.outs }

lemma popc_eq (g : G) (st : TState) (nid : Nat) (new rest : List Nat) (newE oldE : List (Nat × Nat))
    (hstk : st.stack = new ++ nid :: rest) (hnn : nid ∉ new)
    (hos : st.outStack = newE ++ oldE)
    (hge : ∀ e ∈ newE, rest.length ≤ e.2) (hlt : ∀ e ∈ oldE, e.2 < rest.length) :
    popc g nid st = popped g st nid new rest newE oldE := by
  have h1 : st.stack.span (· != nid) = (new, nid :: rest) := by
    rw [hstk]
    apply span_append_of
    · intro a ha
      simp only [bne_iff_ne, ne_eq]
      rintro rfl; exact hnn ha
    · intro a ha
      simp only [List.head?_cons, Option.mem_def, Option.some.injEq] at ha
      subst ha; simp
  have h2 : st.outStack.span (fun e => decide (e.2 ≥ rest.length)) = (newE, oldE) := by
    rw [hos]
    apply span_append_of
    · intro a ha
      simpa using hge a ha
    · intro a ha
      have : a ∈ oldE := by
        cases oldE with
        | nil => simp at ha
        | cons b l => simp at ha; subst ha; simp
      have := hlt a this
      simp; omega
  unfold popc popped
  simp only [h1, List.drop_one, List.tail_cons, h2]

/-- every way of splitting `a :: l` around one element: around the head, or a split of `l` -/
lemma forall_split_cons {α} {Φ : List α → α → List α → Prop} {a : α} {l : List α}
    (hd : Φ [] a l) (tl : ∀ cs1 c cs2, l = cs1 ++ c :: cs2 → Φ (a :: cs1) c cs2) :
    ∀ cs1 c cs2, a :: l = cs1 ++ c :: cs2 → Φ cs1 c cs2 := by
  intro cs1 c cs2 e
  cases cs1 with
  | nil =>
    obtain ⟨rfl, rfl⟩ := List.cons.inj e
    exact hd
  | cons c0 cs1 =>
    obtain ⟨rfl, e2⟩ := List.cons.inj e
    exact tl cs1 c cs2 e2

/-- `cof` by position: a finished node lies in the component that its `compOf` entry names,
counting components in creation order -/
lemma Inv.mem_comp {g : G} {gr : List Nat} {st : TState} (h : Inv g gr st) {v : Nat}
    (hv : lw st v = sentinel g) : v ∈ st.comps.reverse.getD (co st v) [] := by
  obtain ⟨c, hc, hvc⟩ := List.mem_flatten.1 ((h.cflat v).2 hv)
  obtain ⟨s, t, e⟩ := List.append_of_mem hc
  rw [h.cof s c t e v hvc, e, reverse_getD_length]
  exact hvc

lemma Inv.co_lt {g : G} {gr : List Nat} {st : TState} (h : Inv g gr st) (v : Nat)
    (hv : lw st v = sentinel g) : co st v < st.comps.length :=
  List.length_reverse ▸ lt_of_mem_getD (h.mem_comp hv)

/-- a node above `nid` on the stack has no active call -/
lemma Inv.above_not_active {g : G} {gr : List Nat} {st : TState} {nid : Nat} (h : Inv g (nid :: gr) st)
    {new rest : List Nat} (hstk : st.stack = new ++ nid :: rest) (hgr : ∀ z ∈ gr, z ∈ rest)
    {u : Nat} (hu : u ∈ new) : u ∉ nid :: gr := by
  have hnd := (List.nodup_append.1 (hstk ▸ h.nodup)).2.2 u hu
  intro hm
  rcases List.mem_cons.1 hm with rfl | hm
  · exact hnd u List.mem_cons_self rfl
  · exact hnd u (List.mem_cons_of_mem _ (hgr u hm)) rfl

/-- `ook` by position: out-list `k` in creation order belongs to component `k` -/
lemma Inv.ook_getD {g : G} {gr : List Nat} {st : TState} (h : Inv g gr st) {k : Nat}
    (hk : k < st.comps.length) :
    OutOK g st (st.comps.reverse.getD k []) (st.outs.reverse.getD k []) := by
  obtain ⟨l1, l2, e, hl2⟩ := split_reverse_getD st.comps hk []
  have hl1 : st.outs.length - 1 - k = l1.length := by
    have := congrArg List.length e
    rw [List.length_append, List.length_cons] at this
    rw [h.olen]; omega
  rw [getD_reverse st.outs (h.olen ▸ hk), hl1]
  exact h.ook l1 _ l2 e

lemma popped_inv (g : G) (gr : List Nat) (st : TState) (nid : Nat) (new rest : List Nat)
    (newE oldE : List (Nat × Nat)) (h : Inv g (nid :: gr) st)
    (hstk : st.stack = new ++ nid :: rest)
    (hgr : ∀ z ∈ gr, z ∈ rest)
    (hp : ∀ z ∈ gr, Path g z nid)
    (hlt : ∀ y ∈ rest, lw st y < lw st nid)
    (hsucc : ∀ v ∈ out g nid, lw st v ≠ 0)
    (hx : ∀ x, (x ∈ new ∨ x = nid) → ∀ y ∈ out g x, y ∉ rest)
    (hlt2 : ∀ e ∈ oldE, e.2 < rest.length)
    (hsound : ∀ e ∈ newE, ∃ u, (u ∈ new ∨ u = nid) ∧ ∃ v ∈ out g u, lw st v = sentinel g ∧ co st v = e.1)
    (hcompl : ∀ u, (u ∈ new ∨ u = nid) → ∀ v ∈ out g u, lw st v = sentinel g → co st v ∈ newE.map (·.1)) :
    Inv g gr (popped g st nid new rest newE oldE) ∧
    (∀ v, lw (popped g st nid new rest newE oldE) v =
      if v ∈ new ∨ v = nid then sentinel g else lw st v) ∧
    (∀ v, co (popped g st nid new rest newE oldE) v =
      if v ∈ new ∨ v = nid then st.comps.length else co st v) := by
  set st' := popped g st nid new rest newE oldE with hst'
  have hnd : (new ++ nid :: rest).Nodup := hstk ▸ h.nodup
  have hmem : ∀ v, v ∈ st.stack ↔ (v ∈ new ∨ v = nid) ∨ v ∈ rest := by
    intro v; rw [hstk]; simp [or_assoc]
  have hPstack : ∀ v, (v ∈ new ∨ v = nid) → v ∈ st.stack := fun v hv => (hmem v).2 (Or.inl hv)
  have hPrest : ∀ v, (v ∈ new ∨ v = nid) → v ∉ rest := by
    intro v hv hr
    rw [List.nodup_append] at hnd
    rcases hv with hv | rfl
    · exact hnd.2.2 v hv v (by simp [hr]) rfl
    · exact (List.nodup_cons.1 hnd.2.1).1 hr
  have hPsz : ∀ v, (v ∈ new ∨ v = nid) → v < st.low.size :=
    fun v hv => lw_lt_size st v ((h.onstack v).1 (hPstack v hv)).1
  have hM : ∀ v, v ∈ (new ++ [nid]).reverse ↔ (v ∈ new ∨ v = nid) := by
    intro v; simp [or_comm]
  have hset : ∀ (a : Array Nat) (x : Nat), a.size = g.size → ∀ v,
      (((new ++ [nid]).reverse).foldl (fun a v => a.setIfInBounds v x) a).getD v 0 =
        if v ∈ new ∨ v = nid then x else a.getD v 0 := by
    intro a x ha v
    rw [foldl_set_getD]
    by_cases hv : v ∈ new ∨ v = nid
    · rw [if_pos ⟨(hM v).2 hv, ha ▸ h.lowsz ▸ hPsz v hv⟩, if_pos hv]
    · rw [if_neg fun c => hv ((hM v).1 c.1), if_neg hv]
  have hlw : ∀ v, lw st' v = if v ∈ new ∨ v = nid then sentinel g else lw st v :=
    hset st.low _ h.lowsz
  have hco : ∀ v, co st' v = if v ∈ new ∨ v = nid then st.comps.length else co st v :=
    hset st.compOf _ h.cosz
  refine ⟨?_, hlw, hco⟩
  have hPlw : ∀ v, (v ∈ new ∨ v = nid) → lw st v ≠ 0 ∧ lw st v ≠ sentinel g :=
    fun v hv => (h.onstack v).1 (hPstack v hv)
  have hzero : ∀ v, lw st' v = 0 ↔ lw st v = 0 := by
    intro v; rw [hlw]; split_ifs with e
    · have := (hPlw v e).1
      constructor
      · intro e; unfold sentinel at e; omega
      · intro e; exact absurd e this
    · rfl
  have hsent : ∀ v, lw st' v = sentinel g ↔ ((v ∈ new ∨ v = nid) ∨ lw st v = sentinel g) := by
    intro v; rw [hlw]; split_ifs with e
    · simp [e]
    · simp [e]
  have hnidstack : nid ∈ st.stack := hPstack nid (Or.inr rfl)
  -- successors of popped nodes
  have hsuccP : ∀ u, (u ∈ new ∨ u = nid) → ∀ v ∈ out g u,
      (v ∈ new ∨ v = nid) ∨ lw st v = sentinel g := by
    intro u hu v hv
    have hvis : lw st v ≠ 0 := by
      rcases hu with hu | rfl
      · exact h.b2w u (hPlw u (Or.inl hu)).1 (h.above_not_active hstk hgr hu) v hv
      · exact hsucc v hv
    by_cases hs : lw st v = sentinel g
    · exact Or.inr hs
    · have : v ∈ st.stack := (h.onstack v).2 ⟨hvis, hs⟩
      rcases (hmem v).1 this with hP | hr
      · exact Or.inl hP
      · exact absurd hr (hx u hu v hv)
  exact
  { lowsz := by
      show (((new ++ [nid]).reverse).foldl (fun a v => a.setIfInBounds v (sentinel g)) st.low).size = _
      rw [foldl_set_size, h.lowsz]
    cosz := by
      show (((new ++ [nid]).reverse).foldl (fun a v => a.setIfInBounds v st.comps.length) st.compOf).size = _
      rw [foldl_set_size, h.cosz]
    nodup := by
      show rest.Nodup
      exact (List.nodup_cons.1 (List.nodup_append.1 hnd).2.1).2
    onstack := by
      intro v
      show v ∈ rest ↔ _
      rw [ne_eq, ne_eq, hzero, hsent]
      by_cases hP : v ∈ new ∨ v = nid
      · simp [hP, hPrest v hP]
      · have := h.onstack v
        rw [hmem v] at this
        simp only [hP, false_or] at this ⊢
        exact this
    lowlt := by
      intro v hv
      show _ < st.index
      have hP : ¬ (v ∈ new ∨ v = nid) := fun hP => hPrest v hP hv
      rw [hlw, if_neg hP]
      exact h.lowlt v ((hmem v).2 (Or.inr hv))
    idx1 := h.idx1
    idx := by
      show st.index + unv g st' ≤ g.size + 1
      have := unv_mono g st st' (fun x hx => by rw [ne_eq, hzero]; exact hx)
      have := h.idx
      omega
    spath := by
      show rest.Pairwise _
      have := h.spath
      rw [hstk, List.pairwise_append] at this
      exact (List.pairwise_cons.1 this.2.1).2
    grsub := hgr
    wit := by
      intro y hy
      have hy' : y ∈ rest := hy
      obtain ⟨z, hz, hle, hyz⟩ := h.wit y ((hmem y).2 (Or.inr hy'))
      rcases List.mem_cons.1 hz with rfl | hzg
      · have := hlt y hy'; omega
      · refine ⟨z, hzg, ?_, hyz⟩
        rw [hlw, hlw, if_neg (fun hP => hPrest z hP (hgr z hzg)), if_neg (fun hP => hPrest y hP hy')]
        exact hle
    b2w := by
      intro u hu hug v hv
      rw [ne_eq, hzero] at hu ⊢
      by_cases hun : u = nid
      · subst hun; exact hsucc v hv
      · exact h.b2w u hu (by simp [hun, hug]) v hv
    cflat := by
      intro v
      show v ∈ ((new ++ [nid]).reverse :: st.comps).flatten ↔ _
      rw [hsent, List.flatten_cons, List.mem_append, h.cflat v, hM]
    cnodup := by
      show ((new ++ [nid]).reverse :: st.comps).flatten.Nodup
      rw [List.flatten_cons, List.nodup_append]
      refine ⟨?_, h.cnodup, ?_⟩
      · rw [List.nodup_reverse]
        have := (List.nodup_append.1 hnd)
        rw [List.nodup_append]
        refine ⟨this.1, by simp, ?_⟩
        intro a ha b hb
        simp only [List.mem_singleton] at hb
        subst hb
        exact fun e => this.2.2 a ha b (by simp) e
      · intro a ha b hb e
        subst e
        have hP : a ∈ new ∨ a = nid := (hM a).1 ha
        exact (hPlw a hP).2 ((h.cflat a).1 hb)
    cne := by
      intro c hc
      rcases List.mem_cons.1 hc with rfl | hc
      · simp
      · exact h.cne c hc
    cof := forall_split_cons (Φ := fun _ c cs2 => ∀ v ∈ c, co st' v = cs2.length)
      (fun v hv => by rw [hco, if_pos ((hM v).1 hv)])
      (fun cs1 c cs2 e2 v hv => by
        have hs : lw st v = sentinel g :=
          (h.cflat v).1 (List.mem_flatten.2 ⟨c, by rw [e2]; simp, hv⟩)
        rw [hco, if_neg fun hP => (hPlw v hP).2 hs]
        exact h.cof cs1 c cs2 e2 v hv)
    cstrong := by
      intro c hc u hu v hv
      rcases List.mem_cons.1 hc with rfl | hc
      · have hPu : u ∈ new ∨ u = nid := (hM u).1 hu
        have hPv : v ∈ new ∨ v = nid := (hM v).1 hv
        have h1 : Path g u nid := by
          obtain ⟨z, hz, -, huz⟩ := h.wit u (hPstack u hPu)
          rcases List.mem_cons.1 hz with rfl | hzg
          · exact huz
          · exact huz.trans (hp z hzg)
        have h2 : Path g nid v := by
          rcases hPv with hv | rfl
          · have := h.spath
            rw [hstk, List.pairwise_append] at this
            exact this.2.2 v hv nid (by simp)
          · exact Relation.ReflTransGen.refl
        exact h1.trans h2
      · exact h.cstrong c hc u hu v hv
    ctopo := by
      intro u hu v hv
      rw [hsent] at hu ⊢
      rcases hu with hP | hs
      · rcases hsuccP u hP v hv with hPv | hsv
        · refine ⟨Or.inl hPv, ?_⟩
          rw [hco, hco, if_pos hPv, if_pos hP]
        · refine ⟨Or.inr hsv, ?_⟩
          rw [hco, hco, if_neg (fun hPv => (hPlw v hPv).2 hsv), if_pos hP]
          exact (h.co_lt v hsv).le
      · have := h.ctopo u hs v hv
        refine ⟨Or.inr this.1, ?_⟩
        rw [hco, hco, if_neg (fun hPv => (hPlw v hPv).2 this.1), if_neg (fun hPu => (hPlw u hPu).2 hs)]
        exact this.2
    opos := hlt2
    olen := by
      show (_ :: st.outs).length = (_ :: st.comps).length
      simp [h.olen]
    ook := by
      refine forall_split_cons (Φ := fun cs1 c _ => OutOK g st' c
        ((dedupSorted (sortNat (newE.map (·.1))) :: st.outs).getD cs1.length [])) ?_ ?_
      · refine ⟨dedupSorted_sorted _ (sortNat_sorted _), fun d => ?_⟩
        show d ∈ dedupSorted (sortNat (newE.map (·.1))) ↔ _
        rw [mem_dedupSorted, mem_sortNat]
        constructor
        · intro hd
          obtain ⟨e, he, rfl⟩ := List.mem_map.1 hd
          obtain ⟨u, hPu, v, hv, hsv, hcv⟩ := hsound e he
          refine ⟨u, (hM u).2 hPu, v, hv, ?_, ?_⟩
          · rw [hco, if_neg (fun hPv => (hPlw v hPv).2 hsv)]; exact hcv
          · rw [hco, if_pos hPu, ← hcv]
            exact (h.co_lt v hsv).ne
        · rintro ⟨u, hu, v, hv, rfl, hne⟩
          have hPu : u ∈ new ∨ u = nid := (hM u).1 hu
          rw [hco u, if_pos hPu] at hne
          rcases hsuccP u hPu v hv with hPv | hsv
          · rw [hco, if_pos hPv] at hne; exact absurd rfl hne
          · rw [hco, if_neg (fun hPv => (hPlw v hPv).2 hsv)]
            exact hcompl u hPu v hv hsv
      · intro cs1 c cs2 e2
        have hc : ∀ u ∈ c, lw st u = sentinel g := fun u hu =>
          (h.cflat u).1 (List.mem_flatten.2 ⟨c, by rw [e2]; simp, hu⟩)
        refine OutOK_congr g st st' c _ hc h.ctopo (fun x hx => ?_) (h.ook cs1 c cs2 e2)
        rw [hco, if_neg (fun hP => (hPlw x hP).2 hx)] }

/-! ## specification of one `connect` call -/

/-- what a call `connect nid` (from state `st` to `st'`) guarantees besides the invariant;
`new` are the nodes it leaves on the stack, `newE` the out-edge records it leaves -/
structure Post (g : G) (nid : Nat) (st st' : TState) (new : List Nat) (newE : List (Nat × Nat)) : Prop where
  frame : ∀ x, lw st x ≠ 0 → lw st' x = lw st x
  coframe : ∀ x, lw st x = sentinel g → co st' x = co st x
  vis : lw st' nid ≠ 0
  stk : st'.stack = new ++ st.stack
  fresh : ∀ x ∈ new, lw st x = 0
  xedge : ∀ x ∈ new, ∀ y ∈ out g x, y ∈ st.stack → lw st' nid ≤ lw st y
  ostk : st'.outStack = newE ++ st.outStack
  ogep : ∀ e ∈ newE, st.stack.length ≤ e.2
  osound : ∀ e ∈ newE, ∃ u ∈ new, ∃ v ∈ out g u, lw st' v = sentinel g ∧ co st' v = e.1
  ocompl : ∀ u ∈ new, ∀ v ∈ out g u, lw st' v = sentinel g → co st' v ∈ newE.map (·.1)

/-- a call that leaves nothing on either stack -/
lemma Post.nil {g : G} {nid : Nat} {st st' : TState} (frame : ∀ x, lw st x ≠ 0 → lw st' x = lw st x)
    (coframe : ∀ x, lw st x = sentinel g → co st' x = co st x) (vis : lw st' nid ≠ 0)
    (stk : st'.stack = st.stack) (ostk : st'.outStack = st.outStack) : Post g nid st st' [] [] :=
  { frame := frame, coframe := coframe, vis := vis, stk := stk, ostk := ostk
    fresh := fun _ h => nomatch h
    xedge := fun _ h => nomatch h
    ogep := fun _ h => nomatch h
    osound := fun _ h => nomatch h
    ocompl := fun _ h => nomatch h }

lemma Post.refl (g : G) (nid : Nat) (st : TState) (h : lw st nid ≠ 0) : Post g nid st st [] [] :=
  Post.nil (fun _ _ => rfl) (fun _ _ => rfl) h rfl rfl

/-- loop invariant of the successor loop of `connect nid` started in `st0`: `done` are the successors
whose (possible) recursive call is over, `doneE` those whose out-edge record step is over too (the
two differ only between `loop_call` and `loop_record`), `mn` the running minimum of low values,
`new` the nodes and `newE` the out-edge records the loop has put on the two stacks -/
structure Loop (g : G) (gr : List Nat) (nid : Nat) (st0 : TState) (done doneE : List Nat) (st : TState)
    (mn : Nat) (new : List Nat) (newE : List (Nat × Nat)) : Prop where
  inv : Inv g (nid :: gr) st
  frame : ∀ x, x ≠ nid → lw st0 x ≠ 0 → lw st x = lw st0 x
  coframe : ∀ x, lw st0 x = sentinel g → co st x = co st0 x
  lownid : lw st nid = st0.index
  unvlt : unv g st < unv g st0
  mnpos : 0 < mn
  mnle : mn ≤ st0.index
  mnwit : mn = st0.index ∨ ∃ z ∈ gr, lw st0 z ≤ mn ∧ Path g nid z
  donevis : ∀ y ∈ done, lw st y ≠ 0
  stk : st.stack = new ++ nid :: st0.stack
  fresh : ∀ x ∈ new, lw st0 x = 0
  xdone : ∀ y ∈ done, y ∈ st0.stack → mn ≤ lw st0 y
  xnew : ∀ x ∈ new, ∀ y ∈ out g x, y ∈ st0.stack → mn ≤ lw st0 y
  ostk : st.outStack = newE ++ st0.outStack
  ogep : ∀ e ∈ newE, st0.stack.length ≤ e.2
  osound : ∀ e ∈ newE, ∃ u, (u ∈ new ∨ u = nid) ∧ ∃ v ∈ out g u, lw st v = sentinel g ∧ co st v = e.1
  ocnew : ∀ u ∈ new, ∀ v ∈ out g u, lw st v = sentinel g → co st v ∈ newE.map (·.1)
  ocdone : ∀ v ∈ doneE, lw st v = sentinel g → co st v ∈ newE.map (·.1)
  esub : ∀ v ∈ doneE, v ∈ done

lemma loop_init (g : G) (gr : List Nat) (st0 : TState) (nid : Nat) (h : Inv g gr st0)
    (hn : nid < g.size) (h0 : lw st0 nid = 0) (hp : ∀ z ∈ gr, Path g z nid) :
    Loop g gr nid st0 [] [] (push st0 nid) st0.index [] [] := by
  have hsz : nid < st0.low.size := by rw [h.lowsz]; exact hn
  have hlw : ∀ v, lw (push st0 nid) v = if v = nid then st0.index else lw st0 v :=
    fun v => lw_push st0 nid v hsz
  exact
  { inv := push_inv g gr st0 nid h hn h0 hp
    frame := by intro x hx _; rw [hlw, if_neg hx]
    coframe := fun _ _ => rfl
    lownid := by rw [hlw, if_pos rfl]
    unvlt := by
      apply unv_lt g st0 (push st0 nid) _ nid hn h0
      · rw [hlw, if_pos rfl]; have := h.idx1; omega
      · intro x hx; rw [hlw]; split_ifs
        · have := h.idx1; omega
        · exact hx
    mnpos := h.idx1
    mnle := le_rfl
    mnwit := Or.inl rfl
    donevis := fun _ h => nomatch h
    stk := rfl
    fresh := fun _ h => nomatch h
    xdone := fun _ h => nomatch h
    xnew := fun _ h => nomatch h
    ostk := rfl
    ogep := fun _ h => nomatch h
    osound := fun _ h => nomatch h
    ocnew := fun _ h => nomatch h
    ocdone := fun _ h => nomatch h
    esub := fun _ h => nomatch h }

lemma loop_call (g : G) (gr : List Nat) (nid : Nat) (st0 : TState) (done doneE : List Nat)
    (st : TState) (mn : Nat) (new : List Nat) (newE : List (Nat × Nat))
    (oid : Nat) (sta : TState) (new2 : List Nat) (newE2 : List (Nat × Nat))
    (h0 : Inv g gr st0) (hnid0 : lw st0 nid = 0)
    (hL : Loop g gr nid st0 done doneE st mn new newE)
    (he : oid ∈ out g nid) (hn : nid < g.size)
    (hia : Inv g (nid :: gr) sta) (hP : Post g oid st sta new2 newE2) :
    Loop g gr nid st0 (done ++ [oid]) doneE sta (if lw sta oid < mn then lw sta oid else mn)
      (new2 ++ new) (newE2 ++ newE) := by
  have hnn : nid ∉ st0.stack := fun hm => ((h0.onstack nid).1 hm).1 hnid0
  have hnidst : lw st nid ≠ 0 := by rw [hL.lownid]; have := h0.idx1; omega
  -- low values of old visited nodes other than nid never change
  have hfr : ∀ x, x ≠ nid → lw st0 x ≠ 0 → lw sta x = lw st0 x := by
    intro x hx h; rw [hP.frame x (by rw [hL.frame x hx h]; exact h), hL.frame x hx h]
  have hstack0 : ∀ y ∈ st0.stack, y ≠ nid ∧ lw st0 y ≠ 0 ∧ y ∈ st.stack := by
    intro y hy
    refine ⟨fun e => hnn (e ▸ hy), ((h0.onstack y).1 hy).1, ?_⟩
    rw [hL.stk]; simp [hy]
  have hmn' : (if lw sta oid < mn then lw sta oid else mn) ≤ mn := by split_ifs <;> omega
  have hmn'' : (if lw sta oid < mn then lw sta oid else mn) ≤ lw sta oid := by split_ifs <;> omega
  exact
  { inv := hia
    frame := hfr
    coframe := by
      intro x hx
      have hxn : x ≠ nid := by rintro rfl; rw [hnid0] at hx; unfold sentinel at hx; omega
      have h1 : lw st x = sentinel g := by rw [hL.frame x hxn (by rw [hx]; unfold sentinel; omega), hx]
      rw [hP.coframe x h1, hL.coframe x hx]
    lownid := by rw [hP.frame nid hnidst, hL.lownid]
    unvlt := lt_of_le_of_lt (unv_mono g st sta (fun x hx => by rw [hP.frame x hx]; exact hx)) hL.unvlt
    mnpos := by
      have := hL.mnpos; have := hP.vis
      split_ifs <;> omega
    mnle := le_trans hmn' hL.mnle
    mnwit := by
      split_ifs with hlt
      · right
        have hlo : lw sta oid < st0.index := lt_of_lt_of_le hlt hL.mnle
        have hos : oid ∈ sta.stack := (hia.onstack oid).2 ⟨hP.vis, by have := h0.idx_lt; omega⟩
        obtain ⟨z, hz, hle, hoz⟩ := hia.wit oid hos
        rcases List.mem_cons.1 hz with rfl | hzg
        · rw [hP.frame z hnidst, hL.lownid] at hle; omega
        · have hz0 := hstack0 z (h0.grsub z hzg)
          refine ⟨z, hzg, ?_, Relation.ReflTransGen.head ⟨hn, he⟩ hoz⟩
          rw [← hfr z hz0.1 hz0.2.1]; exact hle
      · exact hL.mnwit
    donevis := by
      intro y hy
      rcases List.mem_append.1 hy with hy | hy
      · have := hL.donevis y hy
        rw [hP.frame y this]; exact this
      · simp only [List.mem_singleton] at hy; subst hy; exact hP.vis
    stk := by rw [hP.stk, hL.stk, List.append_assoc]
    fresh := by
      intro x hx
      rcases List.mem_append.1 hx with hx | hx
      · have h1 := hP.fresh x hx
        by_contra h2
        have hxn : x ≠ nid := by rintro rfl; exact hnidst h1
        rw [hL.frame x hxn h2] at h1; exact h2 h1
      · exact hL.fresh x hx
    xdone := by
      intro y hy hys
      rcases List.mem_append.1 hy with hy | hy
      · exact le_trans hmn' (hL.xdone y hy hys)
      · simp only [List.mem_singleton] at hy; subst hy
        have := hstack0 y hys
        rw [← hfr y this.1 this.2.1]; exact hmn''
    xnew := by
      intro x hx y hy hys
      rcases List.mem_append.1 hx with hx | hx
      · have := hstack0 y hys
        have h1 := hP.xedge x hx y hy this.2.2
        rw [hL.frame y this.1 this.2.1] at h1
        exact le_trans hmn'' h1
      · exact le_trans hmn' (hL.xnew x hx y hy hys)
    ostk := by rw [hP.ostk, hL.ostk, List.append_assoc]
    ogep := by
      intro e he
      rcases List.mem_append.1 he with he | he
      · have := hP.ogep e he
        rw [hL.stk] at this
        simp at this; omega
      · exact hL.ogep e he
    osound := by
      intro e he
      rcases List.mem_append.1 he with he | he
      · obtain ⟨u, hu, v, hv, h1, h2⟩ := hP.osound e he
        exact ⟨u, Or.inl (List.mem_append_left _ hu), v, hv, h1, h2⟩
      · obtain ⟨u, hu, v, hv, h1, h2⟩ := hL.osound e he
        refine ⟨u, ?_, v, hv, ?_, ?_⟩
        · rcases hu with hu | hu
          · exact Or.inl (List.mem_append_right _ hu)
          · exact Or.inr hu
        · rw [hP.frame v (by rw [h1]; unfold sentinel; omega), h1]
        · rw [hP.coframe v h1, h2]
    ocnew := by
      intro u hu v hv hs
      rw [List.map_append, List.mem_append]
      rcases List.mem_append.1 hu with hu | hu
      · exact Or.inl (hP.ocompl u hu v hv hs)
      · right
        have hus : u ∈ st.stack := by rw [hL.stk]; simp [hu]
        have hvis := hL.inv.b2w u ((hL.inv.onstack u).1 hus).1
          (hL.inv.above_not_active hL.stk h0.grsub hu) v hv
        have hs' : lw st v = sentinel g := by rw [← hP.frame v hvis]; exact hs
        rw [hP.coframe v hs']
        exact hL.ocnew u hu v hv hs'
    ocdone := by
      intro v hv hs
      rw [List.map_append, List.mem_append]
      right
      have hs' : lw st v = sentinel g := by
        rw [← hP.frame v (hL.donevis v (hL.esub v hv))]; exact hs
      rw [hP.coframe v hs']
      exact hL.ocdone v hv hs'
    esub := fun v hv => List.mem_append_left _ (hL.esub v hv) }

lemma loop_record (g : G) (gr : List Nat) (nid : Nat) (st0 : TState) (done doneE : List Nat)
    (st : TState) (mn : Nat) (new : List Nat) (newE : List (Nat × Nat)) (oid : Nat)
    (hL : Loop g gr nid st0 done doneE st mn new newE)
    (he : oid ∈ out g nid) (hod : oid ∈ done) :
    ∃ newE', Loop g gr nid st0 done (doneE ++ [oid])
      (if lw st oid == sentinel g then record st oid st0.stack.length else st) mn new newE' := by
  have hesub : ∀ v ∈ doneE ++ [oid], v ∈ done := by
    intro v hv
    rcases List.mem_append.1 hv with hv | hv
    · exact hL.esub v hv
    · exact List.mem_singleton.1 hv ▸ hod
  by_cases hs : lw st oid = sentinel g
  · have : (lw st oid == sentinel g) = true := by simpa using hs
    rw [if_pos this]
    refine ⟨(co st oid, st0.stack.length) :: newE, ?_⟩
    exact
    { hL with
      inv := record_inv g (nid :: gr) st oid _ hL.inv (by rw [hL.stk]; simp; omega)
      ostk := by
        show (co st oid, st0.stack.length) :: st.outStack = _
        rw [hL.ostk]; rfl
      ogep := by
        intro e he
        rcases List.mem_cons.1 he with rfl | he
        · exact le_rfl
        · exact hL.ogep e he
      osound := by
        intro e he
        rcases List.mem_cons.1 he with rfl | he
        · exact ⟨nid, Or.inr rfl, oid, ‹_›, hs, rfl⟩
        · exact hL.osound e he
      ocnew := by
        intro u hu v hv hsv
        exact List.mem_map.2 (by
          obtain ⟨e, he, h⟩ := List.mem_map.1 (hL.ocnew u hu v hv hsv)
          exact ⟨e, List.mem_cons_of_mem _ he, h⟩)
      ocdone := by
        intro v hv hsv
        rcases List.mem_append.1 hv with hv | hv
        · obtain ⟨e, he, h⟩ := List.mem_map.1 (hL.ocdone v hv hsv)
          exact List.mem_map.2 ⟨e, List.mem_cons_of_mem _ he, h⟩
        · simp only [List.mem_singleton] at hv; subst hv
          exact List.mem_map.2 ⟨_, List.mem_cons_self, rfl⟩
      esub := hesub }
  · have : ¬ (lw st oid == sentinel g) = true := by simpa using hs
    rw [if_neg this]
    refine ⟨newE, ?_⟩
    exact
    { hL with
      ocdone := by
        intro v hv hsv
        rcases List.mem_append.1 hv with hv | hv
        · exact hL.ocdone v hv hsv
        · simp only [List.mem_singleton] at hv; subst hv; exact absurd hsv hs
      esub := hesub }

/-- the specification of `connect`, as an induction hypothesis -/
def ConnectSpec (g : G) (fuel : Nat) : Prop :=
  ∀ (nid : Nat) (st : TState) (gr : List Nat), Inv g gr st → nid < g.size → lw st nid = 0 →
    (∀ z ∈ gr, Path g z nid) → unv g st < fuel →
    ∃ new newE, Inv g gr (connect g fuel nid st) ∧ Post g nid st (connect g fuel nid st) new newE

/-- the conditional call made for each successor, and by the top-level loop for each node -/
lemma connect_if (g : G) (fuel : Nat) (ih : ConnectSpec g fuel) (nid : Nat) (st : TState)
    (gr : List Nat) (h : Inv g gr st) (hn : nid < g.size) (hp : ∀ z ∈ gr, Path g z nid)
    (hf : unv g st < fuel) :
    ∃ new newE, Inv g gr (if st.low.getD nid 0 == 0 then connect g fuel nid st else st) ∧
      Post g nid st (if st.low.getD nid 0 == 0 then connect g fuel nid st else st) new newE := by
  by_cases hv : lw st nid = 0
  · have e : (st.low.getD nid 0 == 0) = true := beq_iff_eq.2 hv
    rw [if_pos e]
    exact ih nid st gr h hn hv hp hf
  · have e : ¬ (st.low.getD nid 0 == 0) = true := fun e => hv (beq_iff_eq.1 e)
    rw [if_neg e]
    exact ⟨[], [], h, Post.refl g nid st hv⟩

lemma loop_foldl (g : G) (hwf : WF g) (fuel : Nat) (ih : ConnectSpec g fuel)
    (gr : List Nat) (nid : Nat) (st0 : TState) (h0 : Inv g gr st0) (hnid0 : lw st0 nid = 0)
    (hn : nid < g.size) (hp : ∀ z ∈ gr, Path g z nid) (hf : unv g st0 < fuel + 1) :
    ∀ (ws done : List Nat) (st : TState) (mn : Nat) (new : List Nat) (newE : List (Nat × Nat)),
      done ++ ws = out g nid → Loop g gr nid st0 done done st mn new newE →
      ∃ new' newE', Loop g gr nid st0 (out g nid) (out g nid)
        (ws.foldl (cstep g fuel st0.stack.length) (st, mn)).1
        (ws.foldl (cstep g fuel st0.stack.length) (st, mn)).2 new' newE' := by
  intro ws
  induction ws with
  | nil =>
    intro done st mn new newE hd hL
    simp only [List.append_nil] at hd
    subst hd
    exact ⟨new, newE, hL⟩
  | cons oid ws ihw =>
    intro done st mn new newE hd hL
    have he : oid ∈ out g nid := by rw [← hd]; simp
    have hoid : oid < g.size := hwf nid hn oid he
    have hd' : (done ++ [oid]) ++ ws = out g nid := by rw [← hd]; simp
    rw [List.foldl_cons]
    obtain ⟨new2, newE2, hia, hP⟩ := connect_if g fuel ih oid st (nid :: gr) hL.inv hoid
      (fun z hz => by
        rcases List.mem_cons.1 hz with rfl | hz
        · exact Relation.ReflTransGen.single ⟨hn, he⟩
        · exact (hp z hz).tail ⟨hn, he⟩)
      (by have := hL.unvlt; omega)
    generalize hsta : (if st.low.getD oid 0 == 0 then connect g fuel oid st else st) = sta at hia hP
    have hL1 := loop_call g gr nid st0 done done st mn new newE oid sta new2 newE2 h0 hnid0 hL he hn hia hP
    obtain ⟨newE', hL2⟩ := loop_record g gr nid st0 (done ++ [oid]) done sta _ _ _ oid hL1 he (by simp)
    have hc : cstep g fuel st0.stack.length (st, mn) oid =
        (if lw sta oid == sentinel g then record sta oid st0.stack.length else sta,
         if lw sta oid < mn then lw sta oid else mn) := by
      rw [← hsta]; rfl
    rw [hc]
    exact ihw (done ++ [oid]) _ _ _ _ hd' hL2

lemma connect_spec (g : G) (hwf : WF g) : ∀ fuel, ConnectSpec g fuel := by
  intro fuel
  induction fuel with
  | zero => intro nid st gr _ _ _ _ hf; exact absurd hf (Nat.not_lt_zero _)
  | succ fuel ih =>
    intro nid st0 gr h0 hn hnid0 hp hf
    rw [connect_succ]
    obtain ⟨new, newE, hL⟩ := loop_foldl g hwf fuel ih gr nid st0 h0 hnid0 hn hp hf (out g nid) []
      (push st0 nid) st0.index [] [] (by simp) (loop_init g gr st0 nid h0 hn hnid0 hp)
    generalize ((out g nid).foldl (cstep g fuel st0.stack.length) (push st0 nid, st0.index)) = acc at hL ⊢
    obtain ⟨st, mn⟩ := acc
    simp only at hL
    have hnn0 : nid ∉ st0.stack := fun hm => ((h0.onstack nid).1 hm).1 hnid0
    have hng : nid ∉ gr := fun hm => hnn0 (h0.grsub nid hm)
    have hidx := h0.idx_lt
    have hstack0 : ∀ y ∈ st0.stack, lw st y = lw st0 y := by
      intro y hy
      exact hL.frame y (fun e => hnn0 (e ▸ hy)) ((h0.onstack y).1 hy).1
    have hnd := hL.inv.nodup
    rw [hL.stk] at hnd
    have hnn : nid ∉ new := fun hm => (List.nodup_append.1 hnd).2.2 nid hm nid (by simp) rfl
    -- what the loop has established about `nid` and the nodes above it on the stack
    have hP : ∀ x, x ∈ new ++ [nid] ↔ x ∈ new ∨ x = nid := fun x => by simp
    have hfresh : ∀ x, (x ∈ new ∨ x = nid) → lw st0 x = 0 := by
      rintro x (hx | rfl)
      · exact hL.fresh x hx
      · exact hnid0
    have hxall : ∀ x, (x ∈ new ∨ x = nid) → ∀ y ∈ out g x, y ∈ st0.stack → mn ≤ lw st0 y := by
      rintro x (hx | rfl) y hy hys
      · exact hL.xnew x hx y hy hys
      · exact hL.xdone y hy hys
    have hcall : ∀ u, (u ∈ new ∨ u = nid) → ∀ v ∈ out g u, lw st v = sentinel g →
        co st v ∈ newE.map (·.1) := by
      rintro u (hu | rfl) v hv hs
      · exact hL.ocnew u hu v hv hs
      · exact hL.ocdone v hv hs
    unfold finish
    simp only
    by_cases hlt : mn < st0.index
    · rw [if_pos hlt]
      have hsz : nid < st.low.size := by rw [hL.inv.lowsz]; exact hn
      have hlw : ∀ v, lw (setLow st nid mn) v = if v = nid then mn else lw st v :=
        fun v => lw_setLow st nid mn v hsz
      have hsent : ∀ v, lw (setLow st nid mn) v = sentinel g ↔ lw st v = sentinel g := by
        intro v; rw [hlw]; split_ifs with e
        · subst e; rw [hL.lownid]; constructor <;> intro e <;> omega
        · rfl
      refine ⟨new ++ [nid], newE, ?_, ?_⟩
      · apply setLow_inv g gr st nid mn hL.inv hng hL.mnpos (by rw [hL.lownid]; exact hlt)
        · rcases hL.mnwit with e | ⟨z, hz, hle, hpz⟩
          · omega
          · exact ⟨z, hz, by rw [hstack0 z (h0.grsub z hz)]; exact hle, hpz⟩
        · exact hL.donevis
      · exact
        { frame := by
            intro x hx
            have hxn : x ≠ nid := by rintro rfl; exact hx hnid0
            rw [hlw, if_neg hxn]; exact hL.frame x hxn hx
          coframe := hL.coframe
          vis := by rw [hlw, if_pos rfl]; have := hL.mnpos; omega
          stk := by
            show st.stack = _
            rw [hL.stk]; simp
          fresh := fun x hx => hfresh x ((hP x).1 hx)
          xedge := by
            intro x hx y hy hys
            rw [hlw, if_pos rfl]
            exact hxall x ((hP x).1 hx) y hy hys
          ostk := hL.ostk
          ogep := hL.ogep
          osound := by
            intro e he
            obtain ⟨u, hu, v, hv, h1, h2⟩ := hL.osound e he
            exact ⟨u, (hP u).2 hu, v, hv, (hsent v).2 h1, h2⟩
          ocompl := fun u hu v hv hs => hcall u ((hP u).1 hu) v hv ((hsent v).1 hs) }
    · rw [if_neg hlt]
      have hmn : mn = st0.index := by have := hL.mnle; omega
      rw [popc_eq g st nid new st0.stack newE st0.outStack hL.stk hnn hL.ostk hL.ogep h0.opos]
      have hx : ∀ x, (x ∈ new ∨ x = nid) → ∀ y ∈ out g x, y ∉ st0.stack := by
        intro x hx y hy hys
        have h1 := h0.lowlt y hys
        have h2 := hxall x hx y hy hys
        omega
      obtain ⟨hinv, hlw, hco⟩ := popped_inv g gr st nid new st0.stack newE st0.outStack hL.inv hL.stk
        h0.grsub hp
        (by intro y hy; rw [hstack0 y hy, hL.lownid]; exact h0.lowlt y hy)
        hL.donevis hx h0.opos hL.osound hcall
      have hnotP : ∀ x, lw st0 x ≠ 0 → ¬ (x ∈ new ∨ x = nid) := fun x hx hP => hx (hfresh x hP)
      refine ⟨[], [], hinv, Post.nil ?_ ?_ ?_ rfl rfl⟩
      · intro x hx
        have hP := hnotP x hx
        rw [hlw, if_neg hP]
        exact hL.frame x (fun e => hP (Or.inr e)) hx
      · intro x hx
        rw [hco, if_neg (hnotP x (by rw [hx]; unfold sentinel; omega))]
        exact hL.coframe x hx
      · rw [hlw, if_pos (Or.inr rfl)]; unfold sentinel; omega

/-! ## the top-level loop -/

def tinit (g : G) : TState := ⟨Array.replicate g.size 0, [], 1, [], Array.replicate g.size 0, [], []⟩

/-- one iteration of the top-level loop -/
def tstep (g : G) (st : TState) (nid : Nat) : TState :=
  if st.low.getD nid 0 == 0 then connect g (g.size + 1) nid st else st

def tfinal (g : G) : TState := (List.range g.size).foldl (tstep g) (tinit g)

lemma tarjan_eq (g : G) :
    tarjan g = ((tfinal g).comps.reverse, (tfinal g).compOf.toList, (tfinal g).outs.reverse) := rfl

lemma lw_tinit (g : G) (v : Nat) : lw (tinit g) v = 0 := getD_replicate g.size v 0

lemma nil_ne_append_cons {α} {l1 l2 : List α} {a : α} (e : [] = l1 ++ a :: l2) : False :=
  List.cons_ne_nil a l2 (List.append_eq_nil_iff.1 e.symm).2

lemma tinit_inv (g : G) : Inv g [] (tinit g) :=
  { lowsz := Array.size_replicate ..
    cosz := Array.size_replicate ..
    nodup := List.nodup_nil
    onstack := fun v => ⟨fun h => (nomatch h), fun h => absurd (lw_tinit g v) h.1⟩
    lowlt := fun _ h => nomatch h
    idx1 := le_rfl
    idx := Nat.add_comm _ 1 ▸ Nat.add_le_add_right (unv_le_size g (tinit g)) 1
    spath := List.Pairwise.nil
    grsub := fun _ h => nomatch h
    wit := fun _ h => nomatch h
    b2w := fun u hu => absurd (lw_tinit g u) hu
    cflat := fun v => ⟨fun h => (nomatch h), fun h => by
      rw [lw_tinit] at h; unfold sentinel at h; omega⟩
    cnodup := List.nodup_nil
    cne := fun _ h => nomatch h
    cof := fun _ _ _ e => (nil_ne_append_cons e).elim
    cstrong := fun _ h => nomatch h
    ctopo := fun u hu => by rw [lw_tinit] at hu; unfold sentinel at hu; omega
    opos := fun _ h => nomatch h
    olen := rfl
    ook := fun _ _ _ e => (nil_ne_append_cons e).elim }

lemma foldl_tstep_inv (g : G) (hwf : WF g) : ∀ (l : List Nat) (st : TState), Inv g [] st → (∀ x ∈ l, x < g.size) →
    Inv g [] (l.foldl (tstep g) st) ∧ (∀ x, lw st x ≠ 0 → lw (l.foldl (tstep g) st) x ≠ 0) ∧
    ∀ x ∈ l, lw (l.foldl (tstep g) st) x ≠ 0 := by
  intro l
  induction l with
  | nil => intro st h _; exact ⟨h, fun _ hx => hx, by simp⟩
  | cons nid l ih =>
    intro st h hl
    have hn : nid < g.size := hl nid (by simp)
    have hstep : Inv g [] (tstep g st nid) ∧ (∀ x, lw st x ≠ 0 → lw (tstep g st nid) x ≠ 0) ∧
        lw (tstep g st nid) nid ≠ 0 := by
      obtain ⟨new, newE, hi, hP⟩ := connect_if g (g.size + 1) (connect_spec g hwf _) nid st [] h hn
        (fun _ hz => nomatch hz) (Nat.lt_succ_of_le (unv_le_size g st))
      exact ⟨hi, fun x hx => by rw [tstep, hP.frame x hx]; exact hx, hP.vis⟩
    obtain ⟨a1, a2, a3⟩ := ih (tstep g st nid) hstep.1 (fun x hx => hl x (by simp [hx]))
    rw [List.foldl_cons]
    refine ⟨a1, fun x hx => a2 x (hstep.2.1 x hx), ?_⟩
    intro x hx
    rcases List.mem_cons.1 hx with rfl | hx
    · exact a2 x hstep.2.2
    · exact a3 x hx

lemma Inv.stack_nil {g : G} {st : TState} (h : Inv g [] st) : st.stack = [] := by
  apply List.eq_nil_iff_forall_not_mem.2
  intro y hy
  obtain ⟨z, hz, -⟩ := h.wit y hy
  simp at hz

/-! ## from the final state to the checker -/

lemma eq_of_sorted_mem (l1 l2 : List Nat) (h1 : l1.Pairwise (· < ·)) (h2 : l2.Pairwise (· < ·))
    (h : ∀ d, d ∈ l1 ↔ d ∈ l2) : l1 = l2 := by
  apply List.Perm.eq_of_pairwise (le := (· < ·)) _ h1 h2
  · exact (List.perm_ext_iff_of_nodup (h1.imp ne_of_lt) (h2.imp ne_of_lt)).2 h
  · intro a b _ _ hab hba; omega

lemma co_mono_path (g : G) (st : TState) (gr : List Nat) (h : Inv g gr st) (u v : Nat) (hp : Path g u v)
    (hu : lw st u = sentinel g) : lw st v = sentinel g ∧ co st v ≤ co st u := by
  induction hp with
  | refl => exact ⟨hu, le_rfl⟩
  | tail _ hbc ih =>
    have := h.ctopo _ ih.1 _ hbc.2
    exact ⟨this.1, le_trans this.2 ih.2⟩

/-- the claimed result built from a final state -/
def resOf (st : TState) : SCCRes := ⟨st.comps.reverse, some st.compOf.toList, some st.outs.reverse⟩

/-- facts about a final state: everything is assigned and nothing is active -/
structure Final (g : G) (st : TState) : Prop where
  inv : Inv g [] st
  all : ∀ x, x < g.size ↔ lw st x = sentinel g

lemma Final.perm {g : G} {st : TState} (hF : Final g st) :
    st.comps.reverse.flatten.Perm (List.range g.size) := by
  refine (List.reverse_perm st.comps).flatten.trans ?_
  rw [List.perm_ext_iff_of_nodup hF.inv.cnodup List.nodup_range]
  intro a
  rw [hF.inv.cflat, ← hF.all, List.mem_range]

lemma Final.sort {g : G} {st : TState} (hF : Final g st) :
    sortNat st.comps.reverse.flatten = List.range g.size :=
  sortNat_eq_of_perm hF.perm (List.pairwise_lt_range.imp le_of_lt)

lemma Final.compIdx_eq {g : G} {st : TState} (hF : Final g st) (v : Nat) (hv : v < g.size) :
    compIdx (resOf st) v = co st v :=
  (((findIdx_partition (resOf st).comps hF.perm v hv).2 _).1 (hF.inv.mem_comp ((hF.all v).1 hv))).symm

lemma Final.cm_eq {g : G} {st : TState} (hF : Final g st) (v : Nat) (hv : v < g.size) :
    (compMap g.size (resOf st).comps).getD v 0 = co st v := by
  rw [← hF.compIdx_eq v hv]
  exact compMap_getD_eq_compIdx g (resOf st) hF.sort v hv

lemma Final.mutual {g : G} {st : TState} (hF : Final g st) (u v : Nat) (hu : u < g.size) (hv : v < g.size) :
    co st u = co st v ↔ (Path g u v ∧ Path g v u) := by
  constructor
  · intro e
    have h1 := hF.inv.mem_comp ((hF.all u).1 hu)
    have h2 := hF.inv.mem_comp ((hF.all v).1 hv)
    rw [← e] at h2
    have hc := List.mem_reverse.1 (getD_mem h1)
    exact ⟨hF.inv.cstrong _ hc u h1 v h2, hF.inv.cstrong _ hc v h2 u h1⟩
  · rintro ⟨h1, h2⟩
    have a := co_mono_path g st [] hF.inv u v h1 ((hF.all u).1 hu)
    have b := co_mono_path g st [] hF.inv v u h2 ((hF.all v).1 hv)
    omega

lemma Final.topo {g : G} {st : TState} (hF : Final g st) (u v : Nat) (hu : u < g.size) (hv : v ∈ out g u) :
    co st v ≤ co st u := (hF.inv.ctopo u ((hF.all u).1 hu) v hv).2

lemma holds_of_final (g : G) (hwf : WF g) (st : TState) (hF : Final g st) :
    holdsSCC g (resOf st) = none := by
  have h := hF.inv
  refine (holdsSCC_eq_none g (resOf st)).2
    ⟨hF.sort, fun c hc => h.cne c (List.mem_reverse.1 hc), ?_, ?_, ?_, ?_⟩
  · rintro m ⟨⟩
    rw [toList_eq_map_getD st.compOf 0, toList_eq_map_getD (compMap _ _) 0, compMap_size, h.cosz]
    exact List.map_congr_left fun i hi => (hF.cm_eq i (List.mem_range.1 hi)).symm
  · intro u hu v hv
    rw [hF.cm_eq u hu, hF.cm_eq v hv, reachB_iff_path g hwf u v hu, reachB_iff_path g hwf v u hv]
    exact hF.mutual u v hu hv
  · intro u hu v hv
    rw [hF.cm_eq u hu, hF.cm_eq v (hwf u hu v hv)]
    exact hF.topo u v hu hv
  · rintro outs ⟨⟩
    refine ⟨by simp [resOf, h.olen], ?_⟩
    intro c hc
    have hc' : c < st.comps.length := by simpa [h.olen] using hc
    have hok := h.ook_getD hc'
    apply eq_of_sorted_mem _ _ hok.1 (dedupSorted_sorted _ (sortNat_sorted _))
    intro d
    rw [hok.2 d, mem_outList]
    have hcc : ∀ u ∈ st.comps.reverse.getD c [], u < g.size ∧ co st u = c := by
      intro u hu
      have hun : u < g.size := (hF.all u).2
        ((h.cflat u).1 (List.mem_flatten.2 ⟨_, List.mem_reverse.1 (getD_mem hu), hu⟩))
      exact ⟨hun, (hF.compIdx_eq u hun).symm.trans
        (((findIdx_partition (resOf st).comps hF.perm u hun).2 c).1 hu).symm⟩
    constructor
    · rintro ⟨u, hu, v, hv, rfl, hne⟩
      obtain ⟨hun, hcu⟩ := hcc u hu
      exact ⟨hcu ▸ hne, u, hu, v, hv, hF.cm_eq v (hwf u hun v hv)⟩
    · rintro ⟨hne, u, hu, v, hv, rfl⟩
      obtain ⟨hun, hcu⟩ := hcc u hu
      rw [hF.cm_eq v (hwf u hun v hv)] at hne ⊢
      exact ⟨u, hu, v, hv, rfl, hcu ▸ hne⟩

lemma tfinal_final (g : G) (hwf : WF g) : Final g (tfinal g) := by
  obtain ⟨h, -, h3⟩ := foldl_tstep_inv g hwf (List.range g.size) (tinit g) (tinit_inv g) (by simp)
  change Inv g [] (tfinal g) at h
  change ∀ x ∈ List.range g.size, lw (tfinal g) x ≠ 0 at h3
  refine ⟨h, ?_⟩
  intro x
  constructor
  · intro hx
    have hv := h3 x (List.mem_range.2 hx)
    by_contra hs
    have : x ∈ (tfinal g).stack := (h.onstack x).2 ⟨hv, hs⟩
    rw [h.stack_nil] at this
    simp at this
  · intro hs
    have := lw_lt_size (tfinal g) x (by rw [hs]; unfold sentinel; omega)
    rw [h.lowsz] at this; exact this

/-! ## property theorems -/

/-- the output of `tarjan g`, packaged as a claimed SCC result for the checker -/
def tarjanRes (g : G) : SCCRes := ⟨(tarjan g).1, some (tarjan g).2.1, some (tarjan g).2.2⟩

lemma tarjanRes_eq (g : G) : tarjanRes g = resOf (tfinal g) := rfl

/-- **T0 (full correctness).** For every well-formed graph, the output of the mirrored Tarjan
routine (components in creation order, node→component list, per-component out-lists) is accepted
by the proved-sound SCC checker `holdsSCC`: it is a partition into non-empty components, two nodes
share a component iff they are mutually reachable, component numbers are a reverse topological
order, the node→component list agrees with the components, and every out-list is the sorted
duplicate-free list of the other components entered by an edge. -/
theorem tarjan_holds (g : G) (hwf : WF g) :
    holdsSCC g ⟨(tarjan g).1, some (tarjan g).2.1, some (tarjan g).2.2⟩ = none :=
  holds_of_final g hwf (tfinal g) (tfinal_final g hwf)

example : holdsSCC exG (tarjanRes exG) = none := tarjan_holds exG (by decide)
/-- the concrete output on the example graph `0→1→2→0`, `2→3`, `4→3` -/
example : tarjan exG = ([[3], [0, 1, 2], [4]], [1, 1, 1, 0, 2], [[], [0], [0]]) := by decide +kernel
/-- well-formedness is needed: a dangling successor id is never marked visited and the
partition clause fails -/
example : ¬ WF #[[5]] ∧ holdsSCC #[[5]] (tarjanRes #[[5]]) ≠ none := by
  constructor <;> decide

/-- **S1 (termination / fuel).** The recursion-depth fuel `g.size + 1` suffices: at the end of the
run every node has been visited and assigned to a component (its `low` entry is the sentinel) and
the node stack is empty. -/
theorem tarjan_run_complete (g : G) (hwf : WF g) :
    (tfinal g).stack = [] ∧ ∀ v < g.size, lw (tfinal g) v = sentinel g :=
  ⟨(tfinal_final g hwf).inv.stack_nil, fun v hv => ((tfinal_final g hwf).all v).1 hv⟩

example : (tfinal exG).stack = [] ∧ ∀ v < exG.size, lw (tfinal exG) v = sentinel exG :=
  tarjan_run_complete exG (by decide)

/-- **S1 (partition).** The components returned by `tarjan` form a partition of the node set:
their concatenation is a permutation of `0..n-1`, no component is empty, and every node lies in
exactly one component, the one with index `compIdx (tarjanRes g) v`. -/
theorem tarjan_partition (g : G) (hwf : WF g) :
    (tarjan g).1.flatten.Perm (List.range g.size) ∧ (∀ c ∈ (tarjan g).1, c ≠ []) ∧
    ∀ v < g.size, compIdx (tarjanRes g) v < (tarjan g).1.length ∧
      ∀ i, v ∈ (tarjan g).1.getD i [] ↔ i = compIdx (tarjanRes g) v :=
  holdsSCC_partition g (tarjanRes g) (tarjan_holds g hwf)

example := tarjan_partition exG (by decide)

/-- **S2+S3, list form.** Two nodes occur together in one of the component lists returned by
`tarjan` exactly when they are mutually reachable. -/
theorem tarjan_mutual_mem (g : G) (hwf : WF g) (u v : Nat) (hu : u < g.size) (hv : v < g.size) :
    (∃ c ∈ (tarjan g).1, u ∈ c ∧ v ∈ c) ↔ (Path g u v ∧ Path g v u) :=
  holdsSCC_mutual_mem g hwf (tarjanRes g) (tarjan_holds g hwf) u v hu hv

example := tarjan_mutual_mem exG (by decide) 0 3 (by decide) (by decide)

/-- **S2 (soundness of components).** Two nodes that `tarjan` puts into the same component are
mutually reachable. -/
theorem tarjan_comp_mutual_sound (g : G) (hwf : WF g) (c : List Nat) (hc : c ∈ (tarjan g).1)
    (u v : Nat) (hu : u ∈ c) (hv : v ∈ c) : Path g u v ∧ Path g v u := by
  have hp := (tarjan_partition g hwf).1
  have hun : u < g.size := List.mem_range.1 (hp.mem_iff.1 (List.mem_flatten.2 ⟨c, hc, hu⟩))
  have hvn : v < g.size := List.mem_range.1 (hp.mem_iff.1 (List.mem_flatten.2 ⟨c, hc, hv⟩))
  exact (tarjan_mutual_mem g hwf u v hun hvn).1 ⟨c, hc, hu, hv⟩

example : Path exG 0 2 ∧ Path exG 2 0 :=
  tarjan_comp_mutual_sound exG (by decide) [0, 1, 2] (by decide) 0 2 (by decide) (by decide)

/-- **S3 (completeness of components).** Two mutually reachable nodes are put into the same
component by `tarjan`. -/
theorem tarjan_comp_mutual_complete (g : G) (hwf : WF g) (u v : Nat) (hu : u < g.size) (hv : v < g.size)
    (h : Path g u v ∧ Path g v u) : ∃ c ∈ (tarjan g).1, u ∈ c ∧ v ∈ c :=
  (tarjan_mutual_mem g hwf u v hu hv).2 h

example : ∃ c ∈ (tarjan exG).1, 0 ∈ c ∧ 2 ∈ c :=
  tarjan_comp_mutual_complete exG (by decide) 0 2 (by decide) (by decide)
    ⟨Relation.ReflTransGen.head (b := 1) ⟨by decide, by decide⟩
      (Relation.ReflTransGen.single ⟨by decide, by decide⟩),
     Relation.ReflTransGen.single ⟨by decide, by decide⟩⟩

/-- **S2+S3.** Two nodes get the same component index from `tarjan` exactly when they are
mutually reachable by paths of `g`. -/
theorem tarjan_mutual (g : G) (hwf : WF g) (u v : Nat) (hu : u < g.size) (hv : v < g.size) :
    compIdx (tarjanRes g) u = compIdx (tarjanRes g) v ↔ (Path g u v ∧ Path g v u) :=
  holdsSCC_mutual g hwf (tarjanRes g) (tarjan_holds g hwf) u v hu hv

example : compIdx (tarjanRes exG) 0 = compIdx (tarjanRes exG) 2 ↔ (Path exG 0 2 ∧ Path exG 2 0) :=
  tarjan_mutual exG (by decide) 0 2 (by decide) (by decide)
/-- used backwards: 3 and 2 are in different components, so they are not mutually reachable -/
example : ¬ (Path exG 2 3 ∧ Path exG 3 2) := by
  rw [← tarjan_mutual exG (by decide) 2 3 (by decide) (by decide)]; decide

/-- **S4 (reverse topological numbering).** Component indices assigned by `tarjan` never increase
along an edge: for every edge `u → v`, the component of `v` was created no later than that of `u`. -/
theorem tarjan_topo (g : G) (hwf : WF g) (u v : Nat) (he : Edge g u v) :
    compIdx (tarjanRes g) v ≤ compIdx (tarjanRes g) u :=
  holdsSCC_topo g hwf (tarjanRes g) (tarjan_holds g hwf) u v he

example : compIdx (tarjanRes exG) 3 ≤ compIdx (tarjanRes exG) 2 :=
  tarjan_topo exG (by decide) 2 3 (by decide)

/-- **S4, path form.** Component indices never increase along a path. -/
theorem tarjan_topo_path (g : G) (hwf : WF g) (u v : Nat) (hp : Path g u v) :
    compIdx (tarjanRes g) v ≤ compIdx (tarjanRes g) u := by
  induction hp with
  | refl => exact le_rfl
  | tail _ hbc ih => exact le_trans (tarjan_topo g hwf _ _ hbc) ih

example : compIdx (tarjanRes exG) 3 ≤ compIdx (tarjanRes exG) 0 :=
  tarjan_topo_path exG (by decide) 0 3
    (Relation.ReflTransGen.head (b := 1) ⟨by decide, by decide⟩
      (Relation.ReflTransGen.head (b := 2) ⟨by decide, by decide⟩
        (Relation.ReflTransGen.single ⟨by decide, by decide⟩)))

/-- **Component map.** The node→component list returned by `tarjan` lists, for `v = 0..n-1`,
the index of the component containing `v`. -/
theorem tarjan_compOf (g : G) (hwf : WF g) :
    (tarjan g).2.1 = (List.range g.size).map (compIdx (tarjanRes g)) :=
  holdsSCC_compOf g (tarjanRes g) (tarjan_holds g hwf) _ rfl

example : (tarjan exG).2.1 = (List.range exG.size).map (compIdx (tarjanRes exG)) :=
  tarjan_compOf exG (by decide)

/-- **S5 (out-lists).** `tarjan` returns one out-list per component, and the out-list of
component `c` is strictly increasing (sorted, duplicate-free) and contains exactly the indices
`d ≠ c` of components entered by some edge `u → v` with `u` in component `c`. -/
theorem tarjan_edges (g : G) (hwf : WF g) :
    (tarjan g).2.2.length = (tarjan g).1.length ∧ ∀ c < (tarjan g).1.length,
      ((tarjan g).2.2.getD c []).Pairwise (· < ·) ∧
      ∀ d, d ∈ (tarjan g).2.2.getD c [] ↔
        (d ≠ c ∧ ∃ u ∈ (tarjan g).1.getD c [], ∃ v ∈ out g u, compIdx (tarjanRes g) v = d) :=
  holdsSCC_edges g hwf (tarjanRes g) (tarjan_holds g hwf) _ rfl

example := tarjan_edges exG (by decide)

end MV.Graph
