import Mathlib.Tactic
import MV.Model.Hist
/-!
# C14 — the float-to-int conversion of the bin position (finding F15 and its repair)

The model of C14 works with the unbounded integer `⌊position⌋`. The code converts a float64 position to a
machine `int`; beyond the int range that conversion is implementation-defined. These theorems say that the
repaired `clampBin` selects the slot of `⌊position⌋` *whatever* the conversion does out of range
(`clampBin_slot`), and that the pinned code did not (`oldBin_wrong`: with the amd64 behaviour a sample far
above the range is counted as under).
-/
namespace MV.Hist

/-- **Repair is right for every conversion.** If `conv` is the floor on `[0, nbins)` — the only region where
`clampBinM` calls it — then the slot chosen is the slot of the exact integer position `⌊p⌋`, for every rational
position `p` (however large) and every behaviour of `conv` elsewhere. -/
theorem clampBin_slot (conv : ℚ → ℤ) (nbins : ℕ)
    (hconv : ∀ p : ℚ, 0 ≤ p → p < nbins → conv p = ⌊p⌋) (p : ℚ) :
    slotOf nbins (clampBinM conv (⌊p⌋ : ℚ) nbins) = slotOf nbins ⌊p⌋ := by
  unfold clampBinM
  rcases lt_or_ge ⌊p⌋ 0 with hneg | h0
  · rw [if_pos (not_le.2 (Int.cast_lt_zero.2 hneg))]
    unfold slotOf
    rw [if_pos (by decide), if_pos hneg]
  · have h0q : ((⌊p⌋ : ℤ) : ℚ) ≥ 0 := Int.cast_nonneg h0
    rw [if_neg (not_not.2 h0q)]
    rcases lt_or_ge ⌊p⌋ (nbins : ℤ) with hlt | hge
    · have hq : ((⌊p⌋ : ℤ) : ℚ) < nbins := by exact_mod_cast hlt
      rw [if_neg (not_le.2 hq), hconv _ h0q hq, Int.floor_intCast]
    · rw [if_pos (by exact_mod_cast hge)]
      unfold slotOf
      rw [if_neg (by omega), if_pos le_rfl, if_neg (by omega), if_pos hge]

/-- the amd64 conversion: floor inside the int64 range, the most negative int outside -/
def convAmd64 (p : ℚ) : ℤ := if -(2 : ℚ) ^ 63 ≤ p ∧ p < (2 : ℚ) ^ 63 then ⌊p⌋ else -(2 : ℤ) ^ 63

/-- **The pinned code was wrong (F15).** With the amd64 conversion, a position of 10¹⁹ (the sample 10¹⁸ in
`NewLinearHist(0,1,10)`) lands in the *under* slot although its integer position is far above the last bin. -/
theorem oldBin_wrong :
    slotOf 10 (oldBinM convAmd64 ((10 : ℚ) ^ 19)) = .under ∧ slotOf 10 ⌊((10 : ℚ) ^ 19)⌋ = .over := by
  constructor
  · unfold oldBinM convAmd64 slotOf
    norm_num
  · unfold slotOf
    have : ⌊((10 : ℚ) ^ 19)⌋ = (10 : ℤ) ^ 19 := by
      have : ((10 : ℚ) ^ 19) = (((10 : ℤ) ^ 19 : ℤ) : ℚ) := by norm_num
      rw [this, Int.floor_intCast]
    rw [this]
    norm_num

/-- and the repaired code is right on the same input, with the same conversion -/
example : slotOf 10 (clampBinM convAmd64 ((10 : ℚ) ^ 19) 10) = .over := by
  unfold clampBinM slotOf
  norm_num

end MV.Hist
