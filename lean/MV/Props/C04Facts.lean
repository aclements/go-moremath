import MV.Props.FactsHolds
/-! Structural facts C04 relies on, re-extracted from /repo on every run. -/
namespace MV.Facts

/-- State that outlives a call, as extracted from the source on this run: the package-level
variables of the packages this property's code lives in, the functions (other than `init`) that
assign to them or call methods on them, and the fields of the property's struct types. The model is
a pure function of the arguments and of these fields; a new variable, writer or field is state the
model does not know of. The digest-valued `shape:` entry covers everything the call graph
(resolved by go/types) reaches from the functions declared in the property's anchor files: per
function, method (with receiver kind), package variable and constant, its numeric literals, its comparison operators, the
package variables it reads and its writes through parameters or the receiver (including in-place
`sort.*`/`copy`/`append`). The entries behind the digest are in `shape_expected.txt` and in a
comment of the generated file. -/
def stateC04 : List (String × String) := [("globals:stats", "ErrMismatchedSamples ErrSampleSize ErrSamplesEqual ErrZeroVariance MannWhitneyExactLimit MannWhitneyTiesExactLimit StdNormal _KDEBoundaryMethod_index _KDEKernel_index _LocationHypothesis_index inf nan quantileCIApproxThreshold"), ("globals:mathx", "nan smallFact"), ("globalwrites:stats", "MannWhitneyUTest:StdNormal.CDF"), ("globalwrites:mathx", ""), ("fields:stats.TTestResult", "N1:int N2:int T:float64 DoF:float64 AltHypothesis:LocationHypothesis P:float64"), ("fields:stats.TDist", "V:float64"), ("fields:stats.Sample", "Xs:[]float64 Weights:[]float64 Sorted:bool"), ("shape:C04", "n=94 fnv64a=03b1e44961839fa4")]

/-- the source has exactly the package-level variables, writers and struct fields the model accounts for -/
theorem state_C04 : holdsAll stateC04 = true := by
  repeat (refine holdsAll_cons rfl ?_)
  exact holdsAll_nil

end MV.Facts
