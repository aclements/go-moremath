import MV.Model.Special
import MV.Proofs.Interval
import MV.Props.C06
/-!
# C08 — reference values for special functions (closed-form slices)

* `betaIncInt` is the binomial tail sum (`binTail`, over any commutative ring); values at 0, 1;
  range; complement identity.
* Over ℝ (`betaIncR`) it has derivative `x^(a-1) (1-x)^(b-1) / B(a,b)`: the derivatives of the
  terms of the binomial tail telescope (`teleG`).  Hence it is monotone on `[0,1]` and equals the
  normalised integral of `t^(a-1) (1-t)^(b-1)`; `betaInt` closed form, symmetry, and
  `betaInt a b = ∫₀¹ t^(a-1) (1-t)^(b-1)`.
* `gammaIncInt` encloses `P(a,x) = 1 − e^{−x} Σ_{k<a} x^k/k!` (the `gammaInt_*` theorems are about
  this closed form): derivative `e^{−x} x^{a−1}/(a−1)!`, value 0 at 0, monotone on `[0,∞)`,
  integral representation.
* `lchoose` encloses `log C(n,k)`.
* `tCDF 1 t` encloses `1/2 + arctan t / π`.
-/
namespace MV.Special
open Finset MV MV.I

lemma ratPowNat_eq (q : ℚ) (n : ℕ) : I.ratPowNat q n = q ^ n := by
  unfold I.ratPowNat
  rw [List.foldl_const, List.length_range, mul_right_iterate]; exact one_mul _

lemma fact_eq (n : ℕ) : fact n = n.factorial := by
  unfold fact
  induction n with
  | zero => simp
  | succ n ih =>
    rw [List.range_succ, List.foldl_append, ih]
    simp [Nat.factorial_succ, Nat.mul_comm]

/-- `binTail n a x = Σ_{j=a}^{n} C(n,j) x^j (1-x)^(n-j)` : upper tail of Binomial(n, x). -/
def binTail {R : Type*} [CommRing R] (n a : ℕ) (x : R) : R :=
  ∑ j ∈ Ico a (n + 1), (n.choose j : R) * x ^ j * (1 - x) ^ (n - j)

lemma binom_full {R : Type*} [CommRing R] (n : ℕ) (x : R) :
    ∑ j ∈ range (n + 1), (n.choose j : R) * x ^ j * (1 - x) ^ (n - j) = 1 := by
  have h := add_pow x (1 - x) n
  rw [add_sub_cancel, one_pow] at h
  refine Eq.trans ?_ h.symm
  apply sum_congr rfl
  intro j _
  ring

lemma binTail_zero_left {R : Type*} [CommRing R] (n : ℕ) (x : R) : binTail n 0 x = 1 := by
  unfold binTail
  rw [← Finset.range_eq_Ico] at *
  exact binom_full n x

lemma binTail_add_head {R : Type*} [CommRing R] (n a : ℕ) (x : R) (ha : a ≤ n + 1) :
    binTail n a x + ∑ j ∈ range a, (n.choose j : R) * x ^ j * (1 - x) ^ (n - j) = 1 := by
  unfold binTail
  rw [add_comm, sum_range_add_sum_Ico _ ha, binom_full]

lemma binTail_reflect {R : Type*} [CommRing R] (n b : ℕ) (x : R) :
    binTail n b (1 - x) = ∑ j ∈ range (n + 1 - b), (n.choose j : R) * x ^ j * (1 - x) ^ (n - j) := by
  unfold binTail
  have h := sum_Ico_reflect (fun j => (n.choose j : R) * x ^ j * (1 - x) ^ (n - j)) b (le_refl (n + 1))
  rw [Nat.sub_self, ← Finset.range_eq_Ico] at h
  rw [← h]
  apply sum_congr rfl
  intro j hj
  have hj' : j ≤ n := by
    have := (mem_Ico.1 hj).2
    omega
  rw [Nat.choose_symm hj', Nat.sub_sub_self hj', sub_sub_cancel]
  ring

lemma binTail_compl {R : Type*} [CommRing R] (n a b : ℕ) (x : R) (h : a + b = n + 1) :
    binTail n a x + binTail n b (1 - x) = 1 := by
  rw [binTail_reflect]
  have : n + 1 - b = a := by omega
  rw [this]
  exact binTail_add_head n a x (by omega)

lemma binTail_zero_arg {R : Type*} [CommRing R] (n a : ℕ) (ha : 1 ≤ a) :
    binTail n a (0 : R) = 0 :=
  sum_eq_zero fun j hj => by
    rw [zero_pow (by have := (mem_Ico.1 hj).1; omega), mul_zero, zero_mul]

lemma binTail_one_arg {R : Type*} [CommRing R] (n a : ℕ) (ha : a ≤ n) :
    binTail n a (1 : R) = 1 := by
  have h := binTail_compl n a (n + 1 - a) (1 : R) (by omega)
  rwa [sub_self, binTail_zero_arg _ _ (by omega), add_zero] at h

lemma binTerm_nonneg {R : Type*} [CommRing R] [LinearOrder R] [IsStrictOrderedRing R]
    (n j : ℕ) {x : R} (h0 : 0 ≤ x) (h1 : x ≤ 1) :
    0 ≤ (n.choose j : R) * x ^ j * (1 - x) ^ (n - j) :=
  mul_nonneg (mul_nonneg (Nat.cast_nonneg _) (pow_nonneg h0 _)) (pow_nonneg (sub_nonneg.2 h1) _)

lemma binTail_nonneg {R : Type*} [CommRing R] [LinearOrder R] [IsStrictOrderedRing R]
    (n a : ℕ) (x : R) (h0 : 0 ≤ x) (h1 : x ≤ 1) : 0 ≤ binTail n a x :=
  sum_nonneg fun j _ => binTerm_nonneg n j h0 h1

lemma binTail_le_one {R : Type*} [CommRing R] [LinearOrder R] [IsStrictOrderedRing R]
    (n a : ℕ) (x : R) (h0 : 0 ≤ x) (h1 : x ≤ 1) : binTail n a x ≤ 1 := by
  by_cases ha : a ≤ n + 1
  · rw [← binTail_add_head n a x ha]
    exact le_add_of_nonneg_right (sum_nonneg fun j _ => binTerm_nonneg n j h0 h1)
  · unfold binTail
    rw [Ico_eq_empty (by omega), sum_empty]
    exact zero_le_one

/-- `betaIncInt x a b` is exactly the binomial sum
`Σ_{j=a}^{a+b−1} C(a+b−1, j) x^j (1−x)^(a+b−1−j)` (for all naturals `a b`, in particular `a, b ≥ 1`). -/
theorem betaIncInt_eq (x : ℚ) (a b : ℕ) :
    betaIncInt x a b =
      ∑ j ∈ Ico a (a + b), (Nat.choose (a + b - 1) j : ℚ) * x ^ j * (1 - x) ^ (a + b - 1 - j) := by
  unfold betaIncInt
  rw [MV.Discrete.foldl_add_eq_sum, sum_Ico_eq_sum_range, Nat.add_sub_cancel_left]
  exact sum_congr rfl fun i _ => by
    simp only [ratPowNat_eq, MV.Discrete.chooseFast_eq_choose]

example : betaIncInt (1/3) 2 3 = ∑ j ∈ Ico 2 5, (Nat.choose 4 j : ℚ) * (1/3) ^ j * (1 - 1/3) ^ (4 - j) :=
  betaIncInt_eq (1/3) 2 3

lemma betaIncInt_eq_binTail (x : ℚ) (a b : ℕ) (hb : 1 ≤ b) :
    betaIncInt x a b = binTail (a + b - 1) a x := by
  rw [betaIncInt_eq]
  unfold binTail
  have : a + b - 1 + 1 = a + b := by omega
  rw [this]

lemma betaIncInt_b_zero (x : ℚ) (a : ℕ) : betaIncInt x a 0 = 0 := by
  rw [betaIncInt_eq]; simp

/-- At `x = 0` the integer-parameter incomplete beta vanishes. -/
theorem betaIncInt_zero (a b : ℕ) (ha : 1 ≤ a) : betaIncInt 0 a b = 0 := by
  rw [betaIncInt_eq]
  apply sum_eq_zero
  intro j hj
  have : j ≠ 0 := by
    have := (mem_Ico.1 hj).1
    omega
  simp [this]

example : betaIncInt 0 2 3 = 0 := betaIncInt_zero 2 3 (by decide)

/-- At `x = 1` the integer-parameter incomplete beta equals one. -/
theorem betaIncInt_one (a b : ℕ) (hb : 1 ≤ b) : betaIncInt 1 a b = 1 := by
  rw [betaIncInt_eq_binTail 1 a b hb]
  exact binTail_one_arg _ _ (by omega)

example : betaIncInt 1 2 3 = 1 := betaIncInt_one 2 3 (by decide)

/-- For `0 ≤ x ≤ 1` the value lies in `[0,1]` (a partial sum of the Binomial(a+b−1, x)
probabilities, which sum to one). -/
theorem betaIncInt_range (x : ℚ) (a b : ℕ) (h0 : 0 ≤ x) (h1 : x ≤ 1) :
    0 ≤ betaIncInt x a b ∧ betaIncInt x a b ≤ 1 := by
  rcases Nat.eq_zero_or_pos b with hb | hb
  · subst hb
    rw [betaIncInt_b_zero]
    exact ⟨le_refl _, zero_le_one⟩
  · rw [betaIncInt_eq_binTail x a b hb]
    exact ⟨binTail_nonneg _ _ x h0 h1, binTail_le_one _ _ x h0 h1⟩

example : 0 ≤ betaIncInt (2/7) 3 4 ∧ betaIncInt (2/7) 3 4 ≤ 1 :=
  betaIncInt_range (2/7) 3 4 (by norm_num) (by norm_num)

/-- Complement identity `I_x(a,b) + I_{1−x}(b,a) = 1` for `a, b ≥ 1` and every rational `x`. -/
theorem betaIncInt_compl (x : ℚ) (a b : ℕ) (ha : 1 ≤ a) (hb : 1 ≤ b) :
    betaIncInt x a b + betaIncInt (1 - x) b a = 1 := by
  rw [betaIncInt_eq_binTail x a b hb, betaIncInt_eq_binTail (1 - x) b a ha]
  have : b + a - 1 = a + b - 1 := by omega
  rw [this]
  exact binTail_compl (a + b - 1) a b x (by omega)

example : betaIncInt (2/7) 3 4 + betaIncInt (1 - 2/7) 4 3 = 1 :=
  betaIncInt_compl (2/7) 3 4 (by decide) (by decide)

/-- closed form of `betaInt`: `B(a,b) = (a−1)!(b−1)!/(a+b−1)!` -/
theorem betaInt_eq (a b : ℕ) :
    betaInt a b = ((a - 1).factorial * (b - 1).factorial : ℚ) / ((a + b - 1).factorial : ℚ) := by
  unfold betaInt
  simp [fact_eq]

example : betaInt 3 4 = (2 * 6 : ℚ) / 720 := by rw [betaInt_eq]; norm_num [Nat.factorial]

theorem betaInt_symm (a b : ℕ) : betaInt a b = betaInt b a := by
  unfold betaInt
  rw [Nat.mul_comm, Nat.add_comm]

example : betaInt 3 4 = betaInt 4 3 := betaInt_symm 3 4

lemma betaInt_pos (a b : ℕ) : 0 < betaInt a b := by
  rw [betaInt_eq]; positivity

/-- the real-variable version of `betaIncInt` (same polynomial) -/
noncomputable def betaIncR (x : ℝ) (a b : ℕ) : ℝ := binTail (a + b - 1) a x

lemma binTail_cast (n a : ℕ) (x : ℚ) : ((binTail n a x : ℚ) : ℝ) = binTail n a (x : ℝ) := by
  unfold binTail
  push_cast
  rfl

/-- The exact rational `betaIncInt`, viewed in ℝ, is the real polynomial `betaIncR`. -/
theorem betaIncInt_cast (x : ℚ) (a b : ℕ) (hb : 1 ≤ b) :
    ((betaIncInt x a b : ℚ) : ℝ) = betaIncR (x : ℝ) a b := by
  rw [betaIncInt_eq_binTail x a b hb, binTail_cast]
  rfl

example : ((betaIncInt (1/3) 2 3 : ℚ) : ℝ) = betaIncR ((1/3 : ℚ) : ℝ) 2 3 :=
  betaIncInt_cast (1/3) 2 3 (by decide)

/-- `g n x j = C(n,j) · j · x^(j−1) (1−x)^(n−j)`: the telescoping quantity -/
noncomputable def teleG (n : ℕ) (x : ℝ) (j : ℕ) : ℝ :=
  (n.choose j : ℝ) * j * x ^ (j - 1) * (1 - x) ^ (n - j)

lemma hasDerivAt_binTerm (n j : ℕ) (x : ℝ) :
    HasDerivAt (fun x : ℝ => (n.choose j : ℝ) * x ^ j * (1 - x) ^ (n - j))
      (-(teleG n x (j + 1) - teleG n x j)) x := by
  have h1 : HasDerivAt (fun x : ℝ => x ^ j) (j * x ^ (j - 1)) x := hasDerivAt_pow j x
  have h2 : HasDerivAt (fun x : ℝ => (1 - x) ^ (n - j))
      (((n - j : ℕ) : ℝ) * (1 - x) ^ (n - j - 1) * (-1)) x :=
    ((hasDerivAt_id' x).const_sub 1).fun_pow (n - j)
  have hc : ((n.choose (j + 1) : ℕ) : ℝ) * ((j + 1 : ℕ) : ℝ) = (n.choose j : ℝ) * ((n - j : ℕ) : ℝ) := by
    exact_mod_cast Nat.choose_succ_right_eq n j
  have he : n - (j + 1) = n - j - 1 := by omega
  have h3 : HasDerivAt (fun x : ℝ => (n.choose j : ℝ) * x ^ j * (1 - x) ^ (n - j))
      ((n.choose j : ℝ) * (j * x ^ (j - 1)) * (1 - x) ^ (n - j) +
        (n.choose j : ℝ) * x ^ j * (((n - j : ℕ) : ℝ) * (1 - x) ^ (n - j - 1) * (-1))) x :=
    (h1.const_mul (n.choose j : ℝ)).mul h2
  refine h3.congr_deriv ?_
  unfold teleG
  rw [he, Nat.add_sub_cancel]
  push_cast at hc ⊢
  linear_combination (x ^ j * (1 - x) ^ (n - j - 1)) * hc

lemma hasDerivAt_binTail (n a : ℕ) (x : ℝ) (ha : a ≤ n + 1) :
    HasDerivAt (fun x : ℝ => binTail n a x) (teleG n x a) x := by
  unfold binTail
  have h := HasDerivAt.fun_sum (u := Ico a (n + 1))
    (fun j _ => hasDerivAt_binTerm n j x)
  refine h.congr_deriv ?_
  rw [sum_neg_distrib, sum_Ico_sub (teleG n x) ha]
  have : teleG n x (n + 1) = 0 := by
    unfold teleG
    simp [Nat.choose_succ_self]
  rw [this]; ring

lemma teleG_eq (a b : ℕ) (ha : 1 ≤ a) (hb : 1 ≤ b) (x : ℝ) :
    teleG (a + b - 1) x a = x ^ (a - 1) * (1 - x) ^ (b - 1) / ((betaInt a b : ℚ) : ℝ) := by
  have hn : a + b - 1 - a = b - 1 := by omega
  -- `C(n,a)·a·(a−1)!·(b−1)! = n!` for `n = a + b − 1`
  have h := Nat.choose_mul_factorial_mul_factorial (show a ≤ a + b - 1 by omega)
  rw [hn, ← Nat.mul_factorial_pred (show a ≠ 0 by omega)] at h
  have hC : (((a + b - 1).choose a : ℕ) : ℝ) * a =
      ((a + b - 1).factorial : ℝ) / (((a - 1).factorial : ℝ) * ((b - 1).factorial : ℝ)) := by
    rw [eq_div_iff (by positivity)]
    exact_mod_cast (by rw [← h]; ring : (a + b - 1).choose a * a * ((a - 1).factorial * (b - 1).factorial) = (a + b - 1).factorial)
  rw [teleG, hn, hC, betaInt_eq]
  push_cast
  rw [div_div_eq_mul_div]
  ring

/-- Over ℝ, the integer-parameter incomplete beta has derivative `x^(a−1) (1−x)^(b−1) / B(a,b)`
with `B(a,b) = betaInt a b`: it is the regularised incomplete beta function. -/
theorem betaIncR_deriv (a b : ℕ) (ha : 1 ≤ a) (hb : 1 ≤ b) (x : ℝ) :
    HasDerivAt (fun x : ℝ => betaIncR x a b)
      (x ^ (a - 1) * (1 - x) ^ (b - 1) / ((betaInt a b : ℚ) : ℝ)) x := by
  rw [← teleG_eq a b ha hb x]
  exact hasDerivAt_binTail (a + b - 1) a x (by omega)

example : HasDerivAt (fun x : ℝ => betaIncR x 2 3)
    ((1/2 : ℝ) ^ (2 - 1) * (1 - 1/2) ^ (3 - 1) / ((betaInt 2 3 : ℚ) : ℝ)) (1/2) :=
  betaIncR_deriv 2 3 (by decide) (by decide) (1/2)

/-- `betaIncR` is monotone on `[0,1]` (from the non-negative derivative). -/
theorem betaIncR_mono (a b : ℕ) (ha : 1 ≤ a) (hb : 1 ≤ b) :
    MonotoneOn (fun x : ℝ => betaIncR x a b) (Set.Icc 0 1) := by
  have hd := betaIncR_deriv a b ha hb
  refine monotoneOn_of_hasDerivWithinAt_nonneg (convex_Icc 0 1)
    (fun x _ => (hd x).continuousAt.continuousWithinAt) (fun x _ => (hd x).hasDerivWithinAt) ?_
  intro x hx
  rw [interior_Icc] at hx
  have hB : (0 : ℝ) < ((betaInt a b : ℚ) : ℝ) := Rat.cast_pos.mpr (betaInt_pos a b)
  exact div_nonneg (mul_nonneg (pow_nonneg hx.1.le _) (pow_nonneg (sub_nonneg.2 hx.2.le) _)) hB.le

example : betaIncR (1/3) 2 3 ≤ betaIncR (1/2) 2 3 :=
  betaIncR_mono 2 3 (by decide) (by decide) (show (1/3 : ℝ) ∈ Set.Icc 0 1 by norm_num [Set.mem_Icc])
    (show (1/2 : ℝ) ∈ Set.Icc 0 1 by norm_num [Set.mem_Icc]) (by norm_num)

/-- The rational function `x ↦ betaIncInt x a b` is monotone on `[0,1] ∩ ℚ`. -/
theorem betaIncInt_mono (a b : ℕ) (ha : 1 ≤ a) (hb : 1 ≤ b) :
    MonotoneOn (fun x : ℚ => betaIncInt x a b) (Set.Icc 0 1) := by
  intro x hx y hy hxy
  have h := @betaIncR_mono a b ha hb (x : ℝ)
    ⟨by exact_mod_cast hx.1, by exact_mod_cast hx.2⟩ (y : ℝ) ⟨by exact_mod_cast hy.1, by exact_mod_cast hy.2⟩
    (by exact_mod_cast hxy)
  simp only [] at h
  rw [← betaIncInt_cast x a b hb, ← betaIncInt_cast y a b hb] at h
  exact_mod_cast h

example : betaIncInt (1/3) 2 3 ≤ betaIncInt (1/2) 2 3 :=
  betaIncInt_mono 2 3 (by decide) (by decide) (by norm_num) (by norm_num) (by norm_num)

/-- `lchoose n k` encloses `log C(n,k)` for `k ≤ n`. -/
theorem lchoose_sound (n k : ℕ) (hk : k ≤ n) : Mem (Real.log (Nat.choose n k : ℝ)) (lchoose n k) := by
  unfold lchoose
  rw [MV.Discrete.chooseFast_eq_choose]
  have hpos : (0 : ℚ) < (Nat.choose n k : ℚ) := by exact_mod_cast Nat.choose_pos hk
  have h := logQ_sound (Nat.choose n k : ℚ) hpos
  simpa using h

example : Mem (Real.log (Nat.choose 10 3 : ℝ)) (lchoose 10 3) := lchoose_sound 10 3 (by decide)

lemma betaIncR_zero (a b : ℕ) (ha : 1 ≤ a) : betaIncR 0 a b = 0 :=
  binTail_zero_arg _ _ ha

lemma betaIncR_one (a b : ℕ) (hb : 1 ≤ b) : betaIncR 1 a b = 1 :=
  binTail_one_arg _ _ (by omega)

lemma eq_integral_of_hasDerivAt {f f' : ℝ → ℝ} (hd : ∀ t, HasDerivAt f (f' t) t)
    (hc : Continuous f') (h0 : f 0 = 0) (x : ℝ) : f x = ∫ t in (0 : ℝ)..x, f' t := by
  rw [intervalIntegral.integral_eq_sub_of_hasDerivAt (fun t _ => hd t) (hc.intervalIntegrable _ _),
    h0, sub_zero]

/-- `betaIncR x a b = (∫₀ˣ t^(a−1) (1−t)^(b−1) dt) / B(a,b)`: the polynomial really is the
regularised incomplete beta integral (fundamental theorem of calculus on `betaIncR_deriv`). -/
theorem betaIncR_eq_integral (a b : ℕ) (ha : 1 ≤ a) (hb : 1 ≤ b) (x : ℝ) :
    betaIncR x a b = (∫ t in (0 : ℝ)..x, t ^ (a - 1) * (1 - t) ^ (b - 1)) / ((betaInt a b : ℚ) : ℝ) := by
  rw [eq_integral_of_hasDerivAt (betaIncR_deriv a b ha hb) (by fun_prop) (betaIncR_zero a b ha) x,
    intervalIntegral.integral_div]

example : betaIncR (1/2) 2 3 =
    (∫ t in (0 : ℝ)..(1/2), t ^ (2 - 1) * (1 - t) ^ (3 - 1)) / ((betaInt 2 3 : ℚ) : ℝ) :=
  betaIncR_eq_integral 2 3 (by decide) (by decide) (1/2)

/-- `betaInt a b` is the complete beta integral `∫₀¹ t^(a−1) (1−t)^(b−1) dt`. -/
theorem betaInt_eq_integral (a b : ℕ) (ha : 1 ≤ a) (hb : 1 ≤ b) :
    ((betaInt a b : ℚ) : ℝ) = ∫ t in (0 : ℝ)..1, t ^ (a - 1) * (1 - t) ^ (b - 1) := by
  have h := betaIncR_eq_integral a b ha hb 1
  have hB : (0 : ℝ) < ((betaInt a b : ℚ) : ℝ) := Rat.cast_pos.mpr (betaInt_pos a b)
  rwa [betaIncR_one a b hb, eq_div_iff hB.ne', one_mul] at h

example : ((betaInt 2 3 : ℚ) : ℝ) = ∫ t in (0 : ℝ)..1, t ^ (2 - 1) * (1 - t) ^ (3 - 1) :=
  betaInt_eq_integral 2 3 (by decide) (by decide)

lemma gammaIncInt_fold_eq (x : ℚ) (f : ℚ × ℚ → ℕ → ℚ × ℚ)
    (hf : ∀ s t k, f (s, t) k = (s + t, t * x / ((k + 1 : ℕ) : ℚ))) (a : ℕ) :
    (List.range a).foldl f ((0 : ℚ), (1 : ℚ)) =
      (∑ k ∈ range a, x ^ k / (k.factorial : ℚ), x ^ a / (a.factorial : ℚ)) := by
  induction a with
  | zero => simp
  | succ a ih =>
    rw [List.range_succ, List.foldl_append, ih]
    simp only [List.foldl_cons, List.foldl_nil, hf]
    rw [sum_range_succ]
    congr 1
    rw [Nat.factorial_succ]
    push_cast
    have : ((a.factorial : ℕ) : ℚ) ≠ 0 := by positivity
    field_simp
    ring

lemma gammaIncInt_eq (a : ℕ) (x : ℚ) :
    gammaIncInt a x =
      I.sub (I.ofRat 1) (I.mul (I.expQ (-x)) (I.ofRat (∑ k ∈ range a, x ^ k / (k.factorial : ℚ)))) := by
  unfold gammaIncInt
  simp only []
  rw [gammaIncInt_fold_eq x _ (fun s t k => rfl) a]

/-- The interval `gammaIncInt a x` encloses the closed form `1 − e^{−x} Σ_{k<a} x^k/k!`
(every natural `a`, every rational `x`). -/
theorem gammaIncInt_sound (a : ℕ) (x : ℚ) :
    Mem (1 - Real.exp (-(x : ℝ)) * ∑ k ∈ range a, (x : ℝ) ^ k / (k.factorial : ℝ)) (gammaIncInt a x) := by
  rw [gammaIncInt_eq]
  have h := sub_sound (ofRat_sound 1)
    (mul_sound (expQ_sound (-x)) (ofRat_sound (∑ k ∈ range a, x ^ k / (k.factorial : ℚ))))
  have e : (1 - Real.exp (-(x : ℝ)) * ∑ k ∈ range a, (x : ℝ) ^ k / (k.factorial : ℝ))
      = (((1 : ℚ) : ℝ) - Real.exp (((-x : ℚ)) : ℝ) *
          (((∑ k ∈ range a, x ^ k / (k.factorial : ℚ)) : ℚ) : ℝ)) := by
    push_cast; rfl
  rw [e]; exact h

example : Mem (1 - Real.exp (-((5/2 : ℚ) : ℝ)) * ∑ k ∈ range 3, ((5/2 : ℚ) : ℝ) ^ k / (k.factorial : ℝ))
    (gammaIncInt 3 (5/2)) := gammaIncInt_sound 3 (5/2)

lemma hasDerivAt_expSum (a : ℕ) (x : ℝ) :
    HasDerivAt (fun x : ℝ => ∑ k ∈ range (a + 1), x ^ k / (k.factorial : ℝ))
      (∑ k ∈ range a, x ^ k / (k.factorial : ℝ)) x := by
  induction a with
  | zero => simpa using hasDerivAt_const x (1 : ℝ)
  | succ a ih =>
    have h : HasDerivAt (fun x : ℝ => x ^ (a + 1) / ((a + 1).factorial : ℝ))
        (x ^ a / (a.factorial : ℝ)) x := by
      have := (hasDerivAt_pow (a + 1) x).div_const (((a + 1).factorial : ℕ) : ℝ)
      refine this.congr_deriv ?_
      rw [Nat.factorial_succ, Nat.add_sub_cancel, Nat.cast_mul]
      exact mul_div_mul_left _ _ (Nat.cast_ne_zero.mpr a.succ_ne_zero)
    have e1 : (fun x : ℝ => ∑ k ∈ range (a + 1 + 1), x ^ k / (k.factorial : ℝ)) =
        fun x => (∑ k ∈ range (a + 1), x ^ k / (k.factorial : ℝ)) + x ^ (a + 1) / ((a + 1).factorial : ℝ) := by
      funext y; rw [sum_range_succ]
    rw [e1, sum_range_succ]
    exact ih.add h

/-- The closed form `P(a,x) = 1 − e^{−x} Σ_{k<a} x^k/k!` has derivative `e^{−x} x^{a−1}/(a−1)!`
(the Gamma(a) density), for every `a ≥ 1` and real `x`. -/
theorem gammaInt_deriv (a : ℕ) (ha : 1 ≤ a) (x : ℝ) :
    HasDerivAt (fun x : ℝ => 1 - Real.exp (-x) * ∑ k ∈ range a, x ^ k / (k.factorial : ℝ))
      (Real.exp (-x) * x ^ (a - 1) / ((a - 1).factorial : ℝ)) x := by
  obtain ⟨m, rfl⟩ : ∃ m, a = m + 1 := ⟨a - 1, by omega⟩
  have h1 : HasDerivAt (fun x : ℝ => Real.exp (-x)) (Real.exp (-x) * (-1)) x :=
    (hasDerivAt_neg x).exp
  have h2 := hasDerivAt_expSum m x
  have h3 : HasDerivAt (fun x : ℝ => 1 - Real.exp (-x) * ∑ k ∈ range (m + 1), x ^ k / (k.factorial : ℝ))
      (0 - (Real.exp (-x) * (-1) * (∑ k ∈ range (m + 1), x ^ k / (k.factorial : ℝ)) +
        Real.exp (-x) * ∑ k ∈ range m, x ^ k / (k.factorial : ℝ))) x :=
    (hasDerivAt_const x (1 : ℝ)).sub (h1.mul h2)
  refine h3.congr_deriv ?_
  rw [sum_range_succ]
  simp only [Nat.add_sub_cancel]
  ring

example : HasDerivAt (fun x : ℝ => 1 - Real.exp (-x) * ∑ k ∈ range 3, x ^ k / (k.factorial : ℝ))
    (Real.exp (-2) * 2 ^ (3 - 1) / ((3 - 1).factorial : ℝ)) 2 := gammaInt_deriv 3 (by decide) 2

theorem gammaInt_zero (a : ℕ) (ha : 1 ≤ a) :
    (1 - Real.exp (-(0 : ℝ)) * ∑ k ∈ range a, (0 : ℝ) ^ k / (k.factorial : ℝ)) = 0 := by
  obtain ⟨m, rfl⟩ : ∃ m, a = m + 1 := ⟨a - 1, by omega⟩
  simp [sum_range_succ']

example : (1 - Real.exp (-(0 : ℝ)) * ∑ k ∈ range 3, (0 : ℝ) ^ k / (k.factorial : ℝ)) = 0 :=
  gammaInt_zero 3 (by decide)

/-- `P(a,·)` is monotone on `[0,∞)`. -/
theorem gammaInt_mono (a : ℕ) (ha : 1 ≤ a) :
    MonotoneOn (fun x : ℝ => 1 - Real.exp (-x) * ∑ k ∈ range a, x ^ k / (k.factorial : ℝ))
      (Set.Ici 0) := by
  have hd := gammaInt_deriv a ha
  refine monotoneOn_of_hasDerivWithinAt_nonneg (convex_Ici 0)
    (fun x _ => (hd x).continuousAt.continuousWithinAt) (fun x _ => (hd x).hasDerivWithinAt) ?_
  intro x hx
  rw [interior_Ici] at hx
  exact div_nonneg (mul_nonneg (Real.exp_pos _).le (pow_nonneg hx.le _)) (Nat.cast_nonneg _)

example : (1 - Real.exp (-(1 : ℝ)) * ∑ k ∈ range 3, (1 : ℝ) ^ k / (k.factorial : ℝ)) ≤
    (1 - Real.exp (-(2 : ℝ)) * ∑ k ∈ range 3, (2 : ℝ) ^ k / (k.factorial : ℝ)) :=
  gammaInt_mono 3 (by decide) (show (1 : ℝ) ∈ Set.Ici 0 by norm_num [Set.mem_Ici])
    (show (2 : ℝ) ∈ Set.Ici 0 by norm_num [Set.mem_Ici]) (by norm_num)

/-- `P + Q = 1` where `Q(a,x) = e^{−x} Σ_{k<a} x^k/k!` is the regularised upper incomplete gamma. -/
theorem gammaInt_compl (a : ℕ) (x : ℝ) :
    (1 - Real.exp (-x) * ∑ k ∈ range a, x ^ k / (k.factorial : ℝ)) +
      Real.exp (-x) * ∑ k ∈ range a, x ^ k / (k.factorial : ℝ) = 1 := by ring

example : (1 - Real.exp (-(2 : ℝ)) * ∑ k ∈ range 3, (2 : ℝ) ^ k / (k.factorial : ℝ)) +
    Real.exp (-(2 : ℝ)) * ∑ k ∈ range 3, (2 : ℝ) ^ k / (k.factorial : ℝ) = 1 := gammaInt_compl 3 2

/-- `P(a,x) = (∫₀ˣ e^{−t} t^{a−1} dt) / Γ(a)`: the closed form is the regularised lower
incomplete gamma function. -/
theorem gammaInt_eq_integral (a : ℕ) (ha : 1 ≤ a) (x : ℝ) :
    (1 - Real.exp (-x) * ∑ k ∈ range a, x ^ k / (k.factorial : ℝ)) =
      (∫ t in (0 : ℝ)..x, Real.exp (-t) * t ^ (a - 1)) / Real.Gamma a := by
  rw [eq_integral_of_hasDerivAt (gammaInt_deriv a ha) (by fun_prop) (gammaInt_zero a ha) x,
    intervalIntegral.integral_div]
  obtain ⟨m, rfl⟩ : ∃ m, a = m + 1 := ⟨a - 1, by omega⟩
  rw [Nat.add_sub_cancel, Nat.cast_succ, Real.Gamma_nat_eq_factorial]

example : (1 - Real.exp (-(2 : ℝ)) * ∑ k ∈ range 3, (2 : ℝ) ^ k / (k.factorial : ℝ)) =
    (∫ t in (0 : ℝ)..2, Real.exp (-t) * t ^ (3 - 1)) / Real.Gamma (3 : ℕ) :=
  gammaInt_eq_integral 3 (by decide) 2

/-- `Q(a,x) → 0`, i.e. `P(a,x) → 1` as `x → ∞`. -/
theorem gammaInt_tendsto (a : ℕ) :
    Filter.Tendsto (fun x : ℝ => 1 - Real.exp (-x) * ∑ k ∈ range a, x ^ k / (k.factorial : ℝ))
      Filter.atTop (nhds 1) := by
  have h : Filter.Tendsto (fun x : ℝ => ∑ k ∈ range a, (x ^ k * Real.exp (-x)) / (k.factorial : ℝ))
      Filter.atTop (nhds (∑ k ∈ range a, (0 : ℝ) / (k.factorial : ℝ))) := by
    apply tendsto_finsetSum
    intro k _
    exact (Real.tendsto_pow_mul_exp_neg_atTop_nhds_zero k).div_const _
  simp only [zero_div, sum_const_zero] at h
  have h2 := (tendsto_const_nhds (x := (1 : ℝ))).sub h
  rw [sub_zero] at h2
  refine h2.congr ?_
  intro x
  rw [mul_sum]
  congr 1
  apply sum_congr rfl
  intro k _
  ring

example : Filter.Tendsto (fun x : ℝ => 1 - Real.exp (-x) * ∑ k ∈ range 3, x ^ k / (k.factorial : ℝ))
    Filter.atTop (nhds 1) := gammaInt_tendsto 3

lemma atanI_sound {x : ℝ} {a : I} (h : Mem x a) : Mem (Real.arctan x) (atanI a) := by
  have hm := Real.arctan_strictMono.monotone
  -- unfolded first: otherwise `(atanI a).lo` is matched against `(atanQ a.lo).lo` by unfolding
  -- `atanQ`
  unfold atanI
  exact ⟨(atanQ_sound a.lo).1.trans (hm h.1), (hm h.2).trans (atanQ_sound a.hi).2⟩

lemma tCDFpos_one (t : ℚ) :
    tCDFpos 1 t = I.add (I.ofRat (1 / 2))
      (I.div (I.add (atanI (I.div (I.ofRat t) (I.sqrt (I.ofRat ((1 : ℕ) : ℚ)))))
        (I.mul (I.mul (I.div (I.ofRat t) (I.sqrt (I.ofRat (((1 : ℕ) : ℚ) + t * t))))
          (I.sqrt (I.ofRat (((1 : ℕ) : ℚ) / (((1 : ℕ) : ℚ) + t * t))))) (I.ofRat 0))) I.pi) := by
  -- `ν = 1` is odd and its sum runs over `List.range 0`, so it is `0`
  rfl

lemma tCDFpos_one_sound (t : ℚ) :
    Mem (1 / 2 + Real.arctan (t : ℝ) / Real.pi) (tCDFpos 1 t) := by
  rw [tCDFpos_one]
  have hs1 : Mem (Real.sqrt (((1 : ℕ) : ℚ) : ℝ)) (I.sqrt (I.ofRat ((1 : ℕ) : ℚ))) :=
    sqrt_sound' _ _ (ofRat_sound _)
  have hs1pos : 0 < (I.sqrt (I.ofRat ((1 : ℕ) : ℚ))).lo := sqrtLo_pos (show (1 : ℚ) ≤ ((1 : ℕ) : ℚ) by norm_num)
  have hth := atanI_sound (div_sound (ofRat_sound t) hs1 (Or.inl hs1pos))
  have hs2 : Mem (Real.sqrt (((((1 : ℕ) : ℚ) + t * t : ℚ)) : ℝ))
      (I.sqrt (I.ofRat (((1 : ℕ) : ℚ) + t * t))) := sqrt_sound' _ _ (ofRat_sound _)
  have hs2pos : 0 < (I.sqrt (I.ofRat (((1 : ℕ) : ℚ) + t * t))).lo :=
    sqrtLo_pos (show (1 : ℚ) ≤ ((1 : ℕ) : ℚ) + t * t by
      rw [Nat.cast_one]; exact le_add_of_nonneg_right (mul_self_nonneg t))
  have hsin := div_sound (ofRat_sound t) hs2 (Or.inl hs2pos)
  have hcos : Mem (Real.sqrt ((((1 : ℕ) : ℚ) / (((1 : ℕ) : ℚ) + t * t) : ℚ) : ℝ))
      (I.sqrt (I.ofRat (((1 : ℕ) : ℚ) / (((1 : ℕ) : ℚ) + t * t)))) := sqrt_sound' _ _ (ofRat_sound _)
  have hinner := add_sound hth (mul_sound (mul_sound hsin hcos) (ofRat_sound 0))
  have h := add_sound (ofRat_sound (1 / 2)) (div_sound hinner pi_sound (Or.inl pi_lo_pos))
  -- the correction term is `sin θ·cos θ·0` and `t/√1 = t`
  convert h using 1
  simp

/-- For ν = 1 and rational `t ≥ 0`, `tCDF 1 t` encloses the Cauchy CDF `1/2 + arctan(t)/π`. -/
theorem tCDF_one (t : ℚ) (ht : 0 ≤ t) :
    Mem (1 / 2 + Real.arctan (t : ℝ) / Real.pi) (tCDF 1 t) := by
  unfold tCDF
  rw [if_pos ht]
  exact tCDFpos_one_sound t

/-- The same for every rational `t` (negative `t` goes through the reflection `1 − F(−t)`). -/
theorem tCDF_one_all (t : ℚ) :
    Mem (1 / 2 + Real.arctan (t : ℝ) / Real.pi) (tCDF 1 t) := by
  by_cases ht : 0 ≤ t
  · exact tCDF_one t ht
  · unfold tCDF
    rw [if_neg ht]
    have h := sub_sound (ofRat_sound 1) (tCDFpos_one_sound (-t))
    convert h using 1
    push_cast
    rw [Real.arctan_neg]
    ring

example : Mem (1 / 2 + Real.arctan ((-3/2 : ℚ) : ℝ) / Real.pi) (tCDF 1 (-3/2)) :=
  tCDF_one_all (-3/2)

example : Mem (1 / 2 + Real.arctan ((3/2 : ℚ) : ℝ) / Real.pi) (tCDF 1 (3/2)) :=
  tCDF_one (3/2) (by norm_num)

end MV.Special
