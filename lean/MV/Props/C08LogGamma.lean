import MV.Props.C08GammaIdentity
/-!
# C08 — `lgammaS`: the enclosure of `log Γ(a)` from the incomplete gamma series is sound

`MV.Special.lgammaS a` (rational `a > 0`) evaluates at `X = ⌈2a⌉ + 100` (`lgX`; the model's
threshold, of which only `2a ≤ X` is used: `two_mul_le_of_far`)

    L  ∋ a·log X − X − log a + log S(a,X)                     (= log γ(a,X))
    e2 ∋ (a−1)·log X − X + log 2 − log γ(a,X)
    u  = upper end of exp(e2.hi)
    result = [L.lo, L.hi + u]

This file proves that the result contains `log Γ(a)` (`lgammaS_sound`), using
`Γ(a) = γ(a,X) + Γ(a,X)` (`lower_add_upper`), `γ(a,X) = X^a e^(−X)/a · S(a,X)`
(`lowerGamma_series`), `0 ≤ Γ(a,X) ≤ 2 X^(a−1) e^(−X)` (`upperGamma_le`) and the soundness of the
series enclosure (`gammaSer_mem`).  Consequences: `lgammaI_sound`, `gammaRegI_encloses_P`,
`gammaRegI_encloses_integral`.
-/
namespace MV.Special
open MV MV.I Finset

/-- `log g ≤ log (g + T) ≤ log g + T/g`, the last term bounded through
`T ≤ 2 X^(a−1) e^(−X)` and written as an exponential -/
lemma log_add_bracket {a X g T : ℝ} (hX : 0 < X) (hg : 0 < g) (hT0 : 0 ≤ T)
    (hT : T ≤ 2 * X ^ (a - 1) * Real.exp (-X)) :
    Real.log g ≤ Real.log (g + T) ∧
      Real.log (g + T) ≤
        Real.log g + Real.exp ((a - 1) * Real.log X - X + Real.log 2 - Real.log g) := by
  refine ⟨Real.log_le_log hg (by linarith), ?_⟩
  have h1 : Real.log (g + T) - Real.log g ≤ T / g := by
    rw [← Real.log_div (by linarith) hg.ne']
    have h2 := Real.log_le_sub_one_of_pos (div_pos (by linarith : 0 < g + T) hg)
    rwa [show (g + T) / g - 1 = T / g by rw [add_div, div_self hg.ne', add_sub_cancel_left]] at h2
  have h4 : T / g ≤ Real.exp ((a - 1) * Real.log X - X + Real.log 2 - Real.log g) := by
    rw [show (a - 1) * Real.log X - X + Real.log 2 = (a - 1) * Real.log X + (-X + Real.log 2) by
      ring, exp_mul_log_add_sub_log hX hg, Real.exp_add, Real.exp_log two_pos]
    exact div_le_div_of_nonneg_right (by linarith) hg.le
  linarith

lemma log_lowerGamma {a X : ℝ} (ha : 0 < a) (hX : 0 < X)
    (hS : 0 < ∑' n : ℕ, X ^ n / ∏ j ∈ Finset.range n, (a + j + 1)) :
    Real.log (∫ t in (0 : ℝ)..X, t ^ (a - 1) * Real.exp (-t)) =
      a * Real.log X - X - Real.log a +
        Real.log (∑' n : ℕ, X ^ n / ∏ j ∈ Finset.range n, (a + j + 1)) := by
  have hXa : 0 < X ^ a := Real.rpow_pos_of_pos hX a
  rw [lowerGamma_series ha hX.le, Real.log_mul (by positivity) hS.ne',
    Real.log_div (by positivity) ha.ne', Real.log_mul hXa.ne' (Real.exp_pos _).ne',
    Real.log_rpow hX, Real.log_exp]
  ring

/-- the evaluation point `X = ⌈2a⌉ + 100` of `lgammaS` -/
def lgX (a : ℚ) : ℚ := (((2 * a).ceil + 100 : Int) : Rat)

/-- the enclosure `L` of `log γ(a,X)` formed by `lgammaS` -/
def lgL (a : ℚ) (ser : I) : I :=
  I.add (I.sub (I.sub (I.scale a (I.logQ (lgX a))) (I.ofRat (lgX a))) (I.logQ a)) (I.log ser)

/-- the enclosure `e2` of `log (2 X^(a−1) e^(−X)) − log γ(a,X)` formed by `lgammaS` -/
def lgE2 (a : ℚ) (ser : I) : I :=
  I.sub (I.add (I.sub (I.scale (a - 1) (I.logQ (lgX a))) (I.ofRat (lgX a))) (I.logQ 2)) (lgL a ser)

lemma lgammaS_eq (a : ℚ) (ha : 0 < a) :
    lgammaS a = (gammaSer a (lgX a)).map fun ser =>
      ⟨(lgL a ser).lo, (lgL a ser).hi + (I.exp ⟨(lgE2 a ser).hi, (lgE2 a ser).hi⟩).hi⟩ := by
  unfold lgammaS
  rw [if_neg (not_le.mpr ha)]
  show (match gammaSer a (lgX a) with
    | none => none
    | some ser => _) = _
  cases gammaSer a (lgX a) <;> rfl

lemma lgX_ge (a : ℚ) : 2 * a + 100 ≤ lgX a := by
  unfold lgX
  have h := Rat.le_ceil (x := 2 * a)
  push_cast
  linarith

lemma lgX_pos {a : ℚ} (ha : 0 < a) : 0 < lgX a := by linarith [lgX_ge a]

lemma lgL_sound {a : ℚ} (ha : 0 < a) {S : ℝ} {ser : I} (hS : Mem S ser) (hlo : 0 < ser.lo) :
    Mem ((a : ℝ) * Real.log (lgX a : ℝ) - (lgX a : ℝ) - Real.log (a : ℝ) + Real.log S)
      (lgL a ser) :=
  add_sound (gammaSeriesExp_sound _ a (lgX a) (lgX_pos ha) (logQ_sound a ha))
    (log_sound ser S hS hlo)

lemma lgE2_sound {a : ℚ} (ha : 0 < a) {L : ℝ} {ser : I} (hL : Mem L (lgL a ser)) :
    Mem (((a : ℝ) - 1) * Real.log (lgX a : ℝ) - (lgX a : ℝ) + Real.log 2 - L) (lgE2 a ser) := by
  have h := sub_sound (add_sound (sub_sound (scale_sound (a - 1) (logQ_sound (lgX a) (lgX_pos ha)))
    (ofRat_sound (lgX a))) (logQ_sound 2 two_pos)) hL
  rwa [Rat.cast_sub, Rat.cast_one, Rat.cast_ofNat] at h

/-- Soundness of `lgammaS`.  For rational `a > 0`: whenever `lgammaS a` returns an interval `e`
(i.e. the series loop at `X = ⌈2a⌉+100` ended with ratio `≤ 1/2`), that interval contains
`log Γ(a)`.  It rests only on `Γ(a) = γ(a,X) + Γ(a,X)`, the series of `γ` and
the far-tail bound on `Γ(a,X)`. -/
theorem lgammaS_sound (a : ℚ) (ha : 0 < a) (e : I) (h : lgammaS a = some e) :
    Mem (Real.log (Real.Gamma (a : ℝ))) e := by
  have haR : (0 : ℝ) < (a : ℝ) := Rat.cast_pos.mpr ha
  have hX0 := lgX_pos ha
  have hXR : (0 : ℝ) < (lgX a : ℝ) := by exact_mod_cast hX0
  have haX := two_mul_le_of_far (lgX_ge a)
  rw [lgammaS_eq a ha] at h
  obtain ⟨ser, hs, rfl⟩ := Option.map_eq_some_iff.mp h
  obtain ⟨hmem, hlo⟩ := gammaSer_mem a (lgX a) ha hX0 ser hs
  have hlo0 : 0 < ser.lo := lt_of_lt_of_le one_pos hlo
  set S : ℝ := ∑' n : ℕ, (lgX a : ℝ) ^ n / ∏ j ∈ Finset.range n, ((a : ℝ) + j + 1) with hSdef
  have hSpos : 0 < S := by
    have : (0 : ℝ) < ((ser.lo : ℚ) : ℝ) := by exact_mod_cast hlo0
    exact this.trans_le hmem.1
  have hg : 0 < ∫ t in (0 : ℝ)..(lgX a : ℝ), t ^ ((a : ℝ) - 1) * Real.exp (-t) := by
    rw [lowerGamma_series haR hXR.le]
    exact mul_pos (div_pos (mul_pos (Real.rpow_pos_of_pos hXR _) (Real.exp_pos _)) haR) hSpos
  obtain ⟨hlow, hupp⟩ := log_add_bracket hXR hg (upperGamma_nonneg (a : ℝ) hXR.le)
    (upperGamma_le haR hXR haX)
  rw [lower_add_upper haR hXR.le, log_lowerGamma haR hXR hSpos] at hlow hupp
  have hL := lgL_sound ha hmem hlo0
  have hexp := exp_le_exp_hi (lgE2_sound ha hL)
  constructor
  · exact hL.1.trans hlow
  · show _ ≤ ((((lgL a ser).hi + (I.exp ⟨(lgE2 a ser).hi, (lgE2 a ser).hi⟩).hi : ℚ)) : ℝ)
    push_cast
    have := hL.2
    linarith

lemma lgammaS_isSome_five_halves : (lgammaS (5 / 2)).isSome = true := by decide +kernel

/-- `lgammaS` returns an interval at `a = 5/2` (`X = 105`; checked by kernel
evaluation of the series loop) and that interval contains `log Γ(5/2)` -/
example : ∃ e, lgammaS (5 / 2) = some e ∧ Mem (Real.log (Real.Gamma (((5 / 2 : ℚ)) : ℝ))) e := by
  obtain ⟨e, he⟩ := Option.isSome_iff_exists.mp lgammaS_isSome_five_halves
  exact ⟨e, he, lgammaS_sound (5 / 2) (by norm_num) e he⟩

/-- at `a = 1` (`X = 102`): the interval returned by `lgammaS 1` contains
`log Γ(1) = 0` -/
example : ∃ e, lgammaS 1 = some e ∧ ((e.lo : ℚ) : ℝ) ≤ 0 ∧ (0 : ℝ) ≤ ((e.hi : ℚ) : ℝ) := by
  have hs : (lgammaS 1).isSome = true := by decide +kernel
  obtain ⟨e, he⟩ := Option.isSome_iff_exists.mp hs
  have h := lgammaS_sound 1 (by norm_num) e he
  rw [Rat.cast_one, Real.Gamma_one, Real.log_one] at h
  exact ⟨e, he, h.1, h.2⟩

/-- Soundness of `lgammaI` on its series branch.  For rational `a > 0` such that the series
enclosure exists (`(lgammaS a).isSome`, i.e. no Stirling fallback), `lgammaI a` contains
`log Γ(a)`. -/
theorem lgammaI_sound (a : ℚ) (ha : 0 < a) (hs : (lgammaS a).isSome) :
    Mem (Real.log (Real.Gamma (a : ℝ))) (lgammaI a) := by
  obtain ⟨e, he⟩ := Option.isSome_iff_exists.mp hs
  unfold lgammaI
  rw [he]
  exact lgammaS_sound a ha e he

example : Mem (Real.log (Real.Gamma (((5 / 2 : ℚ)) : ℝ))) (lgammaI (5 / 2)) :=
  lgammaI_sound (5 / 2) (by norm_num) lgammaS_isSome_five_halves

/-- `lgammaI_sound` at the shifted argument, in the form needed by `gammaRegIWith_*` -/
lemma lgammaI_succ_sound (a : ℚ) (ha : 0 < a) (hs : (lgammaS (a + 1)).isSome) :
    Mem (Real.log (Real.Gamma ((a : ℝ) + 1))) (lgammaI (a + 1)) := by
  have h := lgammaI_sound (a + 1) (by linarith) hs
  rwa [Rat.cast_add, Rat.cast_one] at h

/-- `gammaRegI` encloses the regularised lower incomplete gamma function.  For rationals
`a > 0`, `x > 0` such that the series enclosure of `log Γ(a+1)` exists: any interval returned by
`gammaRegI a x` contains `P(a,x) = 1 − Q(a,x)`, `Q = upperGammaQ` (both branches; the enclosure of
`log Γ(a+1)` it uses is sound by `lgammaI_succ_sound`). -/
theorem gammaRegI_encloses_P (a x : ℚ) (ha : 0 < a) (hx0 : 0 < x)
    (hs : (lgammaS (a + 1)).isSome) (r : I) (h : gammaRegI a x = some r) :
    Mem (1 - upperGammaQ (a : ℝ) (x : ℝ)) r :=
  gammaRegIWith_encloses_P (lgammaI (a + 1)) a x ha hx0 (lgammaI_succ_sound a ha hs) r h

/-- the same with `P(a,x)` written as the integral: for `0 < x` any interval returned by
`gammaRegI a x` contains `(∫₀ˣ t^(a−1) e^(−t) dt)/Γ(a)`. -/
theorem gammaRegI_encloses_integral (a x : ℚ) (ha : 0 < a) (hx0 : 0 < x)
    (hs : (lgammaS (a + 1)).isSome) (r : I) (h : gammaRegI a x = some r) :
    Mem ((∫ t in (0 : ℝ)..(x : ℝ), t ^ ((a : ℝ) - 1) * Real.exp (-t)) / Real.Gamma (a : ℝ)) r := by
  have haR : (0 : ℝ) < (a : ℝ) := Rat.cast_pos.mpr ha
  have hxR : (0 : ℝ) < (x : ℝ) := Rat.cast_pos.mpr hx0
  rw [lowerGammaReg_eq_one_sub_upperGammaQ haR hxR.le]
  exact gammaRegI_encloses_P a x ha hx0 hs r h

lemma lgammaS_isSome_seven_halves : (lgammaS (5 / 2 + 1)).isSome = true := by decide +kernel

/-- `a = 5/2`, `x = 3` (series branch) and `x = 200` (far-tail branch): `gammaRegI`
returns an interval, and it contains `P(5/2, x)` -/
example : ∃ r, gammaRegI (5 / 2) 3 = some r ∧
    Mem (1 - upperGammaQ (((5 / 2 : ℚ)) : ℝ) (((3 : ℚ)) : ℝ)) r := by
  obtain ⟨ser, hser⟩ := Option.isSome_iff_exists.mp gammaSer_five_halves_three_isSome
  have h1 := (gammaSeries_sound (lgammaI (5 / 2 + 1)) (5 / 2) 3 (by norm_num) (by norm_num)
    (by norm_num) ser hser).1
  exact ⟨_, h1, gammaRegI_encloses_P (5 / 2) 3 (by norm_num) (by norm_num)
    lgammaS_isSome_seven_halves _ h1⟩

example : ∃ r, gammaRegI (5 / 2) 200 = some r ∧
    Mem (1 - upperGammaQ (((5 / 2 : ℚ)) : ℝ) (((200 : ℚ)) : ℝ)) r := by
  have h1 := gammaRegIWith_farTail_eq (lgammaI (5 / 2 + 1)) (5 / 2) 200 (by norm_num) (by norm_num)
  exact ⟨_, h1, gammaRegI_encloses_P (5 / 2) 200 (by norm_num) (by norm_num)
    lgammaS_isSome_seven_halves _ h1⟩

end MV.Special
