import Mathlib.Tactic
import Mathlib.Analysis.Complex.ExponentialBounds
import Mathlib.Analysis.SpecialFunctions.Gaussian.GaussianIntegral
import MV.Model.Interval
/-!
# Soundness of the rational interval arithmetic in `MV/Model/Interval.lean`

`Mem x a` says that the real number `x` lies in the rational interval `a`.  The `theorem`s state
that an executable enclosure function is *sound* (the exact real value lies in the computed
interval) or specify an auxiliary function of the model (`rdn`, `rup`, `ilog2`); helper results use
`lemma`.  Where a hypothesis of a soundness theorem cannot be dropped, a counterexample lemma says
so (`inv_unsound_through_zero`, `atanh2_unsound_half`).

Order: rounding and the arithmetic operations; the fixed-point kernel `FI`; `sqrt`; `ilog2`; the
`2·atanh` series, `ln2` and `log`; `exp` (the model has `exp` before `log`, but `expQ` needs
`ln2_sound`); `pow`; `atan` and `π`; then for the normal distribution first the analysis over ℝ
(series for `Φ` near `0`, asymptotic series in the tail), then the rounding analysis of the two
loops `phiLoop` and `phiTailLoop`, and last the enclosures `phi`, `PhiTail`, `Phi` themselves.

Method for the model functions whose body is a chain of `let`s: the part of the body a proof
needs is copied here as a definition (`atanhFoldF`, `logCore`, `expRemF`, `red`, `PhiTailOf`,
`PhiSeriesSum`, `PhiSeries`, `tn`, `sn`) and tied to the model by an equation `…_eq` that holds
by unfolding; the model's numeric constants enter at these equations.
-/

namespace MV.I

/-- A real number lies in a rational interval. -/
def Mem (x : ℝ) (a : I) : Prop := ((a.lo : ℚ) : ℝ) ≤ x ∧ x ≤ ((a.hi : ℚ) : ℝ)

lemma ratMax_eq (a b : ℚ) : ratMax a b = max a b := by
  unfold ratMax; split_ifs with h
  · exact (max_eq_right h.le).symm
  · exact (max_eq_left (not_lt.mp h)).symm

lemma ratMin_eq (a b : ℚ) : ratMin a b = min a b := by
  unfold ratMin; split_ifs with h
  · exact (min_eq_left h.le).symm
  · exact (min_eq_right (not_lt.mp h)).symm

lemma ratAbs_eq (q : ℚ) : ratAbs q = |q| := by
  unfold ratAbs; split_ifs with h
  · exact (abs_of_neg h).symm
  · exact (abs_of_nonneg (not_lt.mp h)).symm

lemma scaleN_pos : (0 : ℚ) < (scaleN : ℚ) := by
  have : 0 < scaleN := by unfold scaleN; positivity
  exact_mod_cast this

lemma scaleN_posR : (0 : ℝ) < ((scaleN : ℚ) : ℝ) := by exact_mod_cast scaleN_pos

lemma scaleN_ge_one : (1 : ℚ) ≤ (scaleN : ℚ) := by
  have : 1 ≤ scaleN := by unfold scaleN; exact Nat.one_le_two_pow
  exact_mod_cast this

theorem rdn_le (q : ℚ) : rdn q ≤ q := by
  unfold rdn
  rw [div_le_iff₀ scaleN_pos]
  exact Rat.floor_le _

lemma rup_eq_neg_rdn_neg (q : ℚ) : rup q = -rdn (-q) := by
  unfold rup rdn
  rw [Rat.ceil_eq_neg_floor_neg, neg_mul, Int.cast_neg, neg_div]

theorem le_rup (q : ℚ) : q ≤ rup q := by
  rw [rup_eq_neg_rdn_neg]; exact le_neg_of_le_neg (rdn_le (-q))

example : rdn (1 / 3) ≤ 1 / 3 ∧ (1 / 3 : ℚ) ≤ rup (1 / 3) := ⟨rdn_le _, le_rup _⟩

lemma lt_rdn_add (q : ℚ) : q < rdn q + 1 / (scaleN : ℚ) := by
  unfold rdn
  rw [← add_div, lt_div_iff₀ scaleN_pos]
  have := Rat.lt_floor_add_one (q * (scaleN : ℚ))
  push_cast at this
  exact this

lemma rup_lt_add (q : ℚ) : rup q < q + 1 / (scaleN : ℚ) := by
  rw [rup_eq_neg_rdn_neg]; linarith only [lt_rdn_add (-q)]

lemma rdn_mono {p q : ℚ} (h : p ≤ q) : rdn p ≤ rdn q := by
  unfold rdn
  apply div_le_div_of_nonneg_right _ scaleN_pos.le
  have : (p * (scaleN : ℚ)).floor ≤ (q * (scaleN : ℚ)).floor := by
    rw [Rat.le_floor_iff]
    exact (Rat.floor_le _).trans (mul_le_mul_of_nonneg_right h scaleN_pos.le)
  exact_mod_cast this

lemma rup_mono {p q : ℚ} (h : p ≤ q) : rup p ≤ rup q := by
  rw [rup_eq_neg_rdn_neg, rup_eq_neg_rdn_neg]; exact neg_le_neg (rdn_mono (neg_le_neg h))

/-- Integers are on the rounding grid. -/
lemma rdn_intCast (z : ℤ) : rdn (z : ℚ) = z := by
  unfold rdn
  have h : ((z : ℚ) * (scaleN : ℚ)) = ((z * (scaleN : ℤ) : ℤ) : ℚ) := by push_cast; rfl
  rw [h, Rat.floor_intCast]
  push_cast
  field_simp [scaleN_pos.ne']

lemma rdn_nonneg {q : ℚ} (h : 0 ≤ q) : 0 ≤ rdn q := by
  have := rdn_mono h
  have h0 : rdn 0 = 0 := by simpa using rdn_intCast 0
  rwa [h0] at this

lemma one_le_rdn {q : ℚ} (h : 1 ≤ q) : 1 ≤ rdn q := by
  have := rdn_mono h
  have h0 : rdn 1 = 1 := by simpa using rdn_intCast 1
  rwa [h0] at this

lemma rdn_leR (q : ℚ) : ((rdn q : ℚ) : ℝ) ≤ (q : ℝ) := by exact_mod_cast rdn_le q
lemma le_rupR (q : ℚ) : (q : ℝ) ≤ ((rup q : ℚ) : ℝ) := by exact_mod_cast le_rup q

lemma mem_of_le_of_le {x : ℝ} {l h : ℚ} (h1 : (l : ℝ) ≤ x) (h2 : x ≤ (h : ℝ)) :
    Mem x ⟨l, h⟩ := ⟨h1, h2⟩

lemma mem_mk' {x : ℝ} {l h : ℚ} (h1 : (l : ℝ) ≤ x) (h2 : x ≤ (h : ℝ)) : Mem x (mk' l h) :=
  ⟨(rdn_leR l).trans h1, h2.trans (le_rupR h)⟩

/-- Endpoint-wise enclosure of a function that is monotone from `a.lo` on: it suffices that the
endpoints of `b` bound its values at the endpoints of `a`. -/
lemma mem_of_monotoneOn {f : ℝ → ℝ} {x : ℝ} {a b : I} (hf : MonotoneOn f (Set.Ici (a.lo : ℝ)))
    (hx : Mem x a) (hl : (b.lo : ℝ) ≤ f a.lo) (hh : f a.hi ≤ (b.hi : ℝ)) : Mem (f x) b :=
  ⟨hl.trans (hf Set.self_mem_Ici hx.1 hx.1), (hf hx.1 (hx.1.trans hx.2) hx.2).trans hh⟩

theorem ofRat_sound (q : ℚ) : Mem (q : ℝ) (ofRat q) := ⟨le_refl _, le_refl _⟩

theorem add_sound {x y : ℝ} {a b : I} (hx : Mem x a) (hy : Mem y b) : Mem (x + y) (add a b) := by
  apply mem_mk'
  · push_cast; exact add_le_add hx.1 hy.1
  · push_cast; exact add_le_add hx.2 hy.2

theorem neg_sound {x : ℝ} {a : I} (hx : Mem x a) : Mem (-x) (neg a) :=
  mem_of_le_of_le ((Rat.cast_neg _).trans_le (neg_le_neg hx.2))
    ((neg_le_neg hx.1).trans_eq (Rat.cast_neg _).symm)

theorem sub_sound {x y : ℝ} {a b : I} (hx : Mem x a) (hy : Mem y b) : Mem (x - y) (sub a b) := by
  rw [sub_eq_add_neg]; exact add_sound hx (neg_sound hy)

lemma mul_bounds {l h x c : ℝ} (h1 : l ≤ x) (h2 : x ≤ h) :
    min (l * c) (h * c) ≤ x * c ∧ x * c ≤ max (l * c) (h * c) := by
  rcases le_total 0 c with hc | hc
  · exact ⟨(min_le_left _ _).trans (mul_le_mul_of_nonneg_right h1 hc),
      (mul_le_mul_of_nonneg_right h2 hc).trans (le_max_right _ _)⟩
  · exact ⟨(min_le_right _ _).trans (mul_le_mul_of_nonpos_right h2 hc),
      (mul_le_mul_of_nonpos_right h1 hc).trans (le_max_left _ _)⟩

lemma four_prod_bounds {l h x l' h' y : ℝ} (h1 : l ≤ x) (h2 : x ≤ h) (h3 : l' ≤ y) (h4 : y ≤ h') :
    min (min (l * l') (l * h')) (min (h * l') (h * h')) ≤ x * y ∧
      x * y ≤ max (max (l * l') (l * h')) (max (h * l') (h * h')) := by
  have a1 := mul_bounds (c := y) h1 h2
  have a2 := mul_bounds (c := l) h3 h4
  have a3 := mul_bounds (c := h) h3 h4
  rw [mul_comm l' l, mul_comm h' l, mul_comm y l] at a2
  rw [mul_comm l' h, mul_comm h' h, mul_comm y h] at a3
  exact ⟨(min_le_min a2.1 a3.1).trans a1.1, a1.2.trans (max_le_max a2.2 a3.2)⟩

/-- Product of a nonnegative `x ∈ [pl, ph]` with `y ∈ [l, h]`, `0 ≤ l` (`pl` may be negative). -/
lemma mul_bounds_of_nonneg {x y pl ph l h : ℝ} (hx : 0 ≤ x) (hl : 0 ≤ l) (h1 : pl ≤ x)
    (h2 : x ≤ ph) (h3 : l ≤ y) (h4 : y ≤ h) : pl * l ≤ x * y ∧ x * y ≤ ph * h := by
  refine ⟨?_, mul_le_mul h2 h4 (hl.trans h3) (hx.trans h2)⟩
  rcases le_total 0 pl with h0 | h0
  · exact mul_le_mul h1 h3 hl hx
  · exact (mul_nonpos_of_nonpos_of_nonneg h0 hl).trans (mul_nonneg hx (hl.trans h3))

theorem mul_sound {x y : ℝ} {a b : I} (hx : Mem x a) (hy : Mem y b) : Mem (x * y) (mul a b) := by
  obtain ⟨b1, b2⟩ := four_prod_bounds hx.1 hx.2 hy.1 hy.2
  unfold mul
  simp only [ratMin_eq, ratMax_eq]
  exact mem_mk' (by push_cast; exact b1) (by push_cast; exact b2)

theorem scale_sound (c : ℚ) {x : ℝ} {a : I} (hx : Mem x a) : Mem ((c : ℝ) * x) (scale c a) :=
  mul_sound (ofRat_sound c) hx

theorem inv_sound {x : ℝ} {a : I} (hx : Mem x a) (h0 : 0 < a.lo ∨ a.hi < 0) : Mem x⁻¹ (inv a) := by
  unfold inv
  rw [if_pos (by simpa using h0), one_div, one_div]
  refine mem_mk' ?_ ?_ <;> rw [Rat.cast_inv]
  all_goals rcases h0 with h | h
  · exact inv_anti₀ ((Rat.cast_pos.2 h).trans_le hx.1) hx.2
  · have hh : (a.hi : ℝ) < 0 := Rat.cast_lt_zero.2 h
    exact (inv_le_inv_of_neg hh (hx.2.trans_lt hh)).mpr hx.2
  · exact inv_anti₀ (Rat.cast_pos.2 h) hx.1
  · have hxn : x < 0 := hx.2.trans_lt (Rat.cast_lt_zero.2 h)
    exact (inv_le_inv_of_neg hxn (hx.1.trans_lt hxn)).mpr hx.1

theorem div_sound {x y : ℝ} {a b : I} (hx : Mem x a) (hy : Mem y b) (h0 : 0 < b.lo ∨ b.hi < 0) :
    Mem (x / y) (div a b) := by
  rw [div_eq_mul_inv]; exact mul_sound hx (inv_sound hy h0)

/-- bounds of a square over `[l, h]`, by the position of the interval relative to zero -/
lemma sq_bounds {l h x : ℝ} (h1 : l ≤ x) (h2 : x ≤ h) :
    (0 ≤ l → l * l ≤ x ^ 2 ∧ x ^ 2 ≤ h * h) ∧ (h ≤ 0 → h * h ≤ x ^ 2 ∧ x ^ 2 ≤ l * l) ∧
      x ^ 2 ≤ max (l * l) (h * h) := by
  rw [pow_two]
  refine ⟨fun hl => ⟨mul_self_le_mul_self hl h1, mul_self_le_mul_self (hl.trans h1) h2⟩,
    fun hh => ?_, ?_⟩
  · rw [← neg_mul_neg h, ← neg_mul_neg x, ← neg_mul_neg l]
    exact ⟨mul_self_le_mul_self (neg_nonneg.2 hh) (neg_le_neg h2),
      mul_self_le_mul_self (neg_nonneg.2 (h2.trans hh)) (neg_le_neg h1)⟩
  · rcases le_total 0 x with hx | hx
    · exact le_max_of_le_right (mul_self_le_mul_self hx h2)
    · rw [← neg_mul_neg x, ← neg_mul_neg l]
      exact le_max_of_le_left (mul_self_le_mul_self (neg_nonneg.2 hx) (neg_le_neg h1))

theorem sq_sound {x : ℝ} {a : I} (hx : Mem x a) : Mem (x ^ 2) (sq a) := by
  obtain ⟨b1, b2, b3⟩ := sq_bounds hx.1 hx.2
  unfold sq
  split_ifs with h1 h2
  · have := b1 (by exact_mod_cast h1)
    exact mem_mk' (by rw [Rat.cast_mul]; exact this.1) (by rw [Rat.cast_mul]; exact this.2)
  · have := b2 (by exact_mod_cast h2)
    exact mem_mk' (by rw [Rat.cast_mul]; exact this.1) (by rw [Rat.cast_mul]; exact this.2)
  · refine mem_mk' (by rw [Rat.cast_zero]; positivity) ?_
    rw [ratMax_eq, Rat.cast_max, Rat.cast_mul, Rat.cast_mul]
    exact b3

lemma mem_hull {x : ℝ} {a b : I} : Mem x (hull a b) ↔
    ((a.lo : ℝ) ≤ x ∨ (b.lo : ℝ) ≤ x) ∧ (x ≤ (a.hi : ℝ) ∨ x ≤ (b.hi : ℝ)) := by
  unfold Mem hull
  simp only [ratMin_eq, ratMax_eq, Rat.cast_min, Rat.cast_max, min_le_iff, le_max_iff]

theorem hull_sound_left {x : ℝ} {a b : I} (hx : Mem x a) : Mem x (hull a b) :=
  mem_hull.2 ⟨Or.inl hx.1, Or.inl hx.2⟩

theorem hull_sound_right {x : ℝ} {a b : I} (hx : Mem x b) : Mem x (hull a b) :=
  mem_hull.2 ⟨Or.inr hx.1, Or.inr hx.2⟩

lemma abs_le_max_neg {l h x : ℝ} (h1 : l ≤ x) (h2 : x ≤ h) : |x| ≤ max (-l) h :=
  abs_le'.2 ⟨h2.trans (le_max_right _ _), (neg_le_neg h1).trans (le_max_left _ _)⟩

theorem abs_sound {x : ℝ} {a : I} (hx : Mem x a) : Mem |x| (abs a) := by
  unfold abs
  split_ifs with h1 h2
  · have hl : (0 : ℝ) ≤ a.lo := by exact_mod_cast h1
    rw [abs_of_nonneg (hl.trans hx.1)]; exact hx
  · have hh : (a.hi : ℝ) ≤ 0 := by exact_mod_cast h2
    rw [abs_of_nonpos (hx.2.trans hh)]; exact neg_sound hx
  · refine mem_of_le_of_le (by rw [Rat.cast_zero]; exact abs_nonneg x) ?_
    rw [ratMax_eq, Rat.cast_max, Rat.cast_neg]
    exact abs_le_max_neg hx.1 hx.2

/-- The side condition of `inv_sound` cannot be dropped: for an interval through zero, `inv`
returns `[-2^128, 2^128]`, which does not contain `1/x` for tiny `x ≠ 0` in the interval. -/
lemma inv_unsound_through_zero :
    Mem ((2 : ℝ) ^ (-200 : ℤ)) ⟨-1, 1⟩ ∧ ¬ Mem (((2 : ℝ) ^ (-200 : ℤ))⁻¹) (inv ⟨-1, 1⟩) := by
  constructor
  · constructor
    · show ((-1 : ℚ) : ℝ) ≤ _
      have : (0 : ℝ) < 2 ^ (-200 : ℤ) := by positivity
      push_cast; linarith only [this]
    · show _ ≤ ((1 : ℚ) : ℝ)
      push_cast
      exact zpow_le_one_of_nonpos₀ (by norm_num) (by norm_num)
  · intro h
    have h2 : ((2 : ℝ) ^ (-200 : ℤ))⁻¹ ≤ (((inv ⟨-1, 1⟩).hi : ℚ) : ℝ) := h.2
    have h3 : (inv ⟨-1, 1⟩).hi = (scaleN : ℚ) := by
      unfold inv; rw [if_neg (by norm_num)]
    rw [h3, ← zpow_neg] at h2
    -- `scaleN = 2^prec = 2^128`, below `2^200`
    have h4 : ((scaleN : ℚ) : ℝ) = (2 : ℝ) ^ (128 : ℤ) := by
      unfold scaleN prec; push_cast; norm_num
    rw [h4] at h2
    have := (zpow_le_zpow_iff_right₀ (by norm_num : (1 : ℝ) < 2)).mp h2
    norm_num at this

lemma mem_third : Mem (1 / 3 : ℝ) (ofRat (1 / 3)) := by
  simpa using ofRat_sound (1 / 3)

lemma mem_neg_two : Mem (-2 : ℝ) (ofRat (-2)) := by
  simpa using ofRat_sound (-2)

example : Mem ((1 / 3 : ℝ) + -2) (add (ofRat (1 / 3)) (ofRat (-2))) := add_sound mem_third mem_neg_two
example : Mem (-(1 / 3 : ℝ)) (neg (ofRat (1 / 3))) := neg_sound mem_third
example : Mem ((1 / 3 : ℝ) - -2) (sub (ofRat (1 / 3)) (ofRat (-2))) := sub_sound mem_third mem_neg_two
example : Mem ((1 / 3 : ℝ) * -2) (mul (ofRat (1 / 3)) (ofRat (-2))) := mul_sound mem_third mem_neg_two
example : Mem (((5 : ℚ) : ℝ) * (1 / 3 : ℝ)) (scale 5 (ofRat (1 / 3))) := scale_sound 5 mem_third
example : Mem ((-2 : ℝ)⁻¹) (inv (ofRat (-2))) := inv_sound mem_neg_two (Or.inr (by decide))
example : Mem ((1 / 3 : ℝ) / -2) (div (ofRat (1 / 3)) (ofRat (-2))) :=
  div_sound mem_third mem_neg_two (Or.inr (by decide))
example : Mem ((-2 : ℝ) ^ 2) (sq (ofRat (-2))) := sq_sound mem_neg_two
example : Mem |(-2 : ℝ)| (abs (ofRat (-2))) := abs_sound mem_neg_two
example : Mem (-2 : ℝ) (hull (ofRat (1 / 3)) (ofRat (-2))) := hull_sound_right mem_neg_two
example : Mem (1 / 3 : ℝ) (hull (ofRat (1 / 3)) (ofRat (-2))) := hull_sound_left mem_third

namespace FI

/-- the scale `2^prec` as a real number -/
noncomputable def SR : ℝ := ((scaleN : ℚ) : ℝ)

lemma SR_pos : 0 < SR := scaleN_posR

lemma SR_int : ((scaleN : ℤ) : ℝ) = SR := by unfold SR; push_cast; rfl

lemma SR_nat : ((scaleN : ℕ) : ℝ) = SR := by unfold SR; push_cast; rfl

lemma scaleN_int_pos : (0 : ℤ) < (scaleN : ℤ) := by
  have : 0 < scaleN := by unfold scaleN; positivity
  exact_mod_cast this

lemma one_le_SR : 1 ≤ SR := by
  have := scaleN_ge_one
  unfold SR; exact_mod_cast this

/-- membership in `a.toI`, expressed on the integer grid -/
lemma mem_toI {x : ℝ} {a : FI} :
    Mem x a.toI ↔ ((a.lo : ℤ) : ℝ) ≤ x * SR ∧ x * SR ≤ ((a.hi : ℤ) : ℝ) := by
  unfold Mem toI
  simp only
  push_cast
  rw [SR_nat, div_le_iff₀ SR_pos, le_div_iff₀ SR_pos]

lemma imin_eq (a b : ℤ) : imin a b = min a b := by
  unfold imin; split_ifs with h
  · exact (min_eq_left h).symm
  · exact (min_eq_right (le_of_not_ge h)).symm

lemma imax_eq (a b : ℤ) : imax a b = max a b := by
  unfold imax; split_ifs with h
  · exact (max_eq_right h).symm
  · exact (max_eq_left (le_of_not_ge h)).symm

/-- `Int.fdiv` by a positive integer rounds down. -/
lemma fdiv_le_real (x : ℤ) {d : ℤ} (hd : 0 < d) : ((Int.fdiv x d : ℤ) : ℝ) ≤ (x : ℝ) / (d : ℝ) := by
  have hdR : (0 : ℝ) < d := by exact_mod_cast hd
  rw [Int.fdiv_eq_ediv_of_nonneg x hd.le, le_div_iff₀ hdR]
  exact_mod_cast Int.ediv_mul_le x hd.ne'

/-- `-(fdiv (-x) d)` rounds up. -/
lemma real_le_neg_fdiv_neg (x : ℤ) {d : ℤ} (hd : 0 < d) :
    (x : ℝ) / (d : ℝ) ≤ ((-(Int.fdiv (-x) d) : ℤ) : ℝ) := by
  have := fdiv_le_real (-x) hd
  rw [Int.cast_neg, neg_div] at this
  rw [Int.cast_neg]
  exact le_neg_of_le_neg this

/-- `-(fdiv (-x) d)` overshoots by less than one. -/
lemma neg_fdiv_neg_lt_real (x : ℤ) {d : ℤ} (hd : 0 < d) :
    ((-(Int.fdiv (-x) d) : ℤ) : ℝ) < (x : ℝ) / (d : ℝ) + 1 := by
  have hdR : (0 : ℝ) < d := by exact_mod_cast hd
  have h : ((-x : ℤ) : ℝ) / d < ((-x / d : ℤ) : ℝ) + 1 := by
    rw [div_lt_iff₀ hdR]
    exact_mod_cast Int.lt_ediv_add_one_mul_self (-x) hd
  rw [Int.fdiv_eq_ediv_of_nonneg _ hd.le, Int.cast_neg]
  rw [Int.cast_neg, neg_div] at h
  linarith only [h]

/-- the shifts in `fdivP`, `cdivP` are floor division by `2^prec` -/
lemma fdivP_eq (x : ℤ) : fdivP x = Int.fdiv x (scaleN : ℤ) := by
  rw [Int.fdiv_eq_ediv_of_nonneg _ scaleN_int_pos.le]
  exact Int.shiftRight_eq_div_pow x prec

lemma cdivP_eq (x : ℤ) : cdivP x = -(Int.fdiv (-x) (scaleN : ℤ)) := by
  rw [← fdivP_eq]; rfl

lemma fdivP_le (x : ℤ) : ((fdivP x : ℤ) : ℝ) ≤ (x : ℝ) / SR := by
  rw [fdivP_eq, ← SR_int]; exact fdiv_le_real x scaleN_int_pos

lemma le_cdivP (x : ℤ) : (x : ℝ) / SR ≤ ((cdivP x : ℤ) : ℝ) := by
  rw [cdivP_eq, ← SR_int]; exact real_le_neg_fdiv_neg x scaleN_int_pos

lemma cdivP_lt (x : ℤ) : ((cdivP x : ℤ) : ℝ) < (x : ℝ) / SR + 1 := by
  rw [cdivP_eq, ← SR_int]; exact neg_fdiv_neg_lt_real x scaleN_int_pos

lemma fdivP_nonneg {x : ℤ} (hx : 0 ≤ x) : 0 ≤ fdivP x := by
  rw [fdivP_eq]; exact Int.fdiv_nonneg hx scaleN_int_pos.le

theorem one_sound : Mem 1 one.toI := by
  rw [mem_toI]; unfold one; simp only; rw [SR_int]; constructor <;> simp

/-- every rational lies in its fixed-point rounding `[⌊q·2^p⌋, ⌈q·2^p⌉]/2^p` -/
theorem ofRat_sound (q : ℚ) : Mem (q : ℝ) (ofRat q).toI := ⟨rdn_leR q, le_rupR q⟩

theorem add_sound {x y : ℝ} {a b : FI} (hx : Mem x a.toI) (hy : Mem y b.toI) :
    Mem (x + y) (add a b).toI := by
  rw [mem_toI] at *
  rw [add_mul]
  exact ⟨by rw [add, Int.cast_add]; exact add_le_add hx.1 hy.1,
    by rw [add, Int.cast_add]; exact add_le_add hx.2 hy.2⟩

theorem neg_sound {x : ℝ} {a : FI} (hx : Mem x a.toI) : Mem (-x) (neg a).toI := by
  rw [mem_toI] at *
  rw [neg_mul]
  exact ⟨by rw [neg, Int.cast_neg]; exact neg_le_neg hx.2,
    by rw [neg, Int.cast_neg]; exact neg_le_neg hx.1⟩

/-- rounding a lower / upper bound of a product of grid values back to the grid -/
lemma fdivP_mul_le {P : ℤ} {u w : ℝ} (h : (P : ℝ) ≤ u * SR * (w * SR)) :
    ((fdivP P : ℤ) : ℝ) ≤ u * w * SR :=
  (fdivP_le P).trans ((div_le_iff₀ SR_pos).2 (h.trans_eq (by ring)))

lemma le_cdivP_mul {P : ℤ} {u w : ℝ} (h : u * SR * (w * SR) ≤ (P : ℝ)) :
    u * w * SR ≤ ((cdivP P : ℤ) : ℝ) :=
  ((le_div_iff₀ SR_pos).2 (h.trans_eq' (by ring))).trans (le_cdivP P)

theorem mul_sound {x y : ℝ} {a b : FI} (hx : Mem x a.toI) (hy : Mem y b.toI) :
    Mem (x * y) (mul a b).toI := by
  rw [mem_toI] at *
  obtain ⟨b1, b2⟩ := four_prod_bounds hx.1 hx.2 hy.1 hy.2
  unfold mul
  simp only [imin_eq, imax_eq]
  exact ⟨fdivP_mul_le (by push_cast; exact b1), le_cdivP_mul (by push_cast; exact b2)⟩

theorem sq_sound {x : ℝ} {a : FI} (hx : Mem x a.toI) : Mem (x ^ 2) (sq a).toI := by
  rw [mem_toI] at *
  obtain ⟨b1, b2, b3⟩ := sq_bounds hx.1 hx.2
  rw [pow_two] at b1 b2 b3
  rw [pow_two]
  unfold sq
  split_ifs with c1 c2
  · have := b1 (by exact_mod_cast c1)
    exact ⟨fdivP_mul_le (by push_cast; exact this.1), le_cdivP_mul (by push_cast; exact this.2)⟩
  · have := b2 (by exact_mod_cast c2)
    exact ⟨fdivP_mul_le (by push_cast; exact this.1), le_cdivP_mul (by push_cast; exact this.2)⟩
  · refine ⟨by rw [Int.cast_zero]; exact mul_nonneg (mul_self_nonneg x) SR_pos.le,
      le_cdivP_mul ?_⟩
    rw [imax_eq]
    push_cast
    exact b3

/-- squaring keeps a nonnegative lower endpoint nonnegative -/
lemma sq_lo_nonneg {a : FI} (h : 0 ≤ a.lo) : 0 ≤ (sq a).lo := by
  unfold sq
  rw [if_pos h]
  exact fdivP_nonneg (mul_nonneg h h)

theorem divNat_sound {x : ℝ} {a : FI} (hx : Mem x a.toI) {n : ℕ} (hn : 0 < n) :
    Mem (x / n) (divNat a n).toI := by
  rw [mem_toI] at *
  have hnI : (0 : ℤ) < (n : ℤ) := by exact_mod_cast hn
  have hnR : (0 : ℝ) < (n : ℝ) := by exact_mod_cast hn
  unfold divNat; simp only
  constructor
  · refine (fdiv_le_real _ hnI).trans ?_
    push_cast
    rw [div_mul_eq_mul_div]
    exact div_le_div_of_nonneg_right hx.1 hnR.le
  · refine le_trans ?_ (real_le_neg_fdiv_neg _ hnI)
    push_cast
    rw [div_mul_eq_mul_div]
    exact div_le_div_of_nonneg_right hx.2 hnR.le

theorem mulInt_sound {x : ℝ} {a : FI} (hx : Mem x a.toI) (n : ℤ) :
    Mem (x * n) (mulInt a n).toI := by
  rw [mem_toI] at *
  rw [mul_right_comm]
  unfold mulInt
  split_ifs with h
  · have hn : (0 : ℝ) ≤ n := by exact_mod_cast h
    exact ⟨by rw [Int.cast_mul]; exact mul_le_mul_of_nonneg_right hx.1 hn,
      by rw [Int.cast_mul]; exact mul_le_mul_of_nonneg_right hx.2 hn⟩
  · have hn : (n : ℝ) ≤ 0 := by exact_mod_cast (le_of_not_ge h)
    exact ⟨by rw [Int.cast_mul]; exact mul_le_mul_of_nonpos_right hx.2 hn,
      by rw [Int.cast_mul]; exact mul_le_mul_of_nonpos_right hx.1 hn⟩

theorem divPos_sound {x y : ℝ} {a b : FI} (hx : Mem x a.toI) (hy : Mem y b.toI)
    (ha : 0 ≤ a.lo) (hb : 0 < b.lo) : Mem (x / y) (divPos a b).toI := by
  rw [mem_toI] at *
  have hS := SR_pos
  have hbl : (0 : ℝ) < b.lo := by exact_mod_cast hb
  have hyS : 0 < y * SR := hbl.trans_le hy.1
  have hxS : 0 ≤ x * SR := (by exact_mod_cast ha : (0 : ℝ) ≤ a.lo).trans hx.1
  have key : x / y * SR = (x * SR) * SR / (y * SR) := by
    rw [mul_div_mul_right _ _ hS.ne', div_mul_eq_mul_div]
  rw [key]
  unfold divPos
  constructor
  · refine (fdiv_le_real _ (by exact_mod_cast hyS.trans_le hy.2)).trans ?_
    push_cast
    rw [SR_nat]
    exact div_le_div₀ (mul_nonneg hxS hS.le) (mul_le_mul_of_nonneg_right hx.1 hS.le) hyS hy.2
  · refine le_trans ?_ (real_le_neg_fdiv_neg _ hb)
    push_cast
    rw [SR_nat]
    exact div_le_div₀ (mul_nonneg (hxS.trans hx.2) hS.le)
      (mul_le_mul_of_nonneg_right hx.2 hS.le) hbl hy.1

/-- widening by `e` grid units absorbs any perturbation of size at most `e/2^prec` -/
theorem widen_sound {x y : ℝ} {a : FI} (hx : Mem x a.toI) {e : ℤ} (he : |y - x| * SR ≤ (e : ℝ)) :
    Mem y (widen a e).toI := by
  rw [mem_toI] at *
  rw [← abs_of_pos SR_pos, ← abs_mul, sub_mul, abs_le] at he
  unfold widen
  push_cast
  constructor <;> linarith [hx.1, hx.2, he.1, he.2]

/-- `max(-lo, hi)` dominates `|x|` on the grid -/
lemma abs_le_imax {x : ℝ} {a : FI} (hx : Mem x a.toI) :
    |x| * SR ≤ ((imax (-a.lo) a.hi : ℤ) : ℝ) := by
  rw [mem_toI] at hx
  rw [imax_eq, ← abs_of_pos SR_pos, ← abs_mul, Int.cast_max, Int.cast_neg]
  exact abs_le_max_neg hx.1 hx.2

end FI

lemma scaleN2_cast : (((scaleN * scaleN : ℕ)) : ℚ) = (scaleN : ℚ) ^ 2 := by
  push_cast; ring

lemma sqrtLo_nonneg (q : ℚ) : 0 ≤ sqrtLo q := by
  unfold sqrtLo
  split_ifs
  · exact le_refl _
  · exact div_nonneg (Nat.cast_nonneg _) scaleN_pos.le

lemma sqrtHi_nonneg (q : ℚ) : 0 ≤ sqrtHi q := by
  unfold sqrtHi
  split_ifs
  · exact le_refl _
  · exact div_nonneg (Nat.cast_nonneg _) scaleN_pos.le

lemma sqrtLo_sq_le {q : ℚ} (hq : 0 < q) : (sqrtLo q) ^ 2 ≤ q := by
  unfold sqrtLo
  rw [if_neg (not_le.mpr hq)]
  simp only
  set n : ℕ := (q * ((scaleN * scaleN : ℕ) : ℚ)).floor.toNat with hn
  have hS := scaleN_pos
  have hfl : 0 ≤ (q * ((scaleN * scaleN : ℕ) : ℚ)).floor := by
    rw [Rat.le_floor_iff]
    have : (0 : ℚ) ≤ ((scaleN * scaleN : ℕ) : ℚ) := Nat.cast_nonneg _
    simpa using mul_nonneg hq.le this
  have hnq : (n : ℚ) ≤ q * (scaleN : ℚ) ^ 2 := by
    have h1 : ((n : ℕ) : ℤ) = (q * ((scaleN * scaleN : ℕ) : ℚ)).floor := Int.toNat_of_nonneg hfl
    have h2 : ((n : ℕ) : ℚ) = (((q * ((scaleN * scaleN : ℕ) : ℚ)).floor : ℤ) : ℚ) := by
      rw [← h1]; simp
    rw [h2, ← scaleN2_cast]
    exact Rat.floor_le _
  have hs : ((Nat.sqrt n : ℕ) : ℚ) ^ 2 ≤ (n : ℚ) := by
    exact_mod_cast Nat.sqrt_le' n
  rw [div_pow, div_le_iff₀ (by positivity)]
  exact hs.trans hnq

lemma le_sqrtHi_sq {q : ℚ} (hq : 0 < q) : q ≤ (sqrtHi q) ^ 2 := by
  unfold sqrtHi
  rw [if_neg (not_le.mpr hq)]
  simp only
  set n : ℕ := (q * ((scaleN * scaleN : ℕ) : ℚ)).ceil.toNat with hn
  have hS := scaleN_pos
  have hnq : q * (scaleN : ℚ) ^ 2 ≤ (n : ℚ) := by
    have h1 : (q * ((scaleN * scaleN : ℕ) : ℚ)).ceil ≤ ((n : ℕ) : ℤ) := Int.self_le_toNat _
    have h2 : (((q * ((scaleN * scaleN : ℕ) : ℚ)).ceil : ℤ) : ℚ) ≤ ((n : ℕ) : ℚ) := by
      exact_mod_cast h1
    rw [← scaleN2_cast]
    exact Rat.le_ceil.trans h2
  have hs : (n : ℚ) ≤ ((Nat.sqrt n + 1 : ℕ) : ℚ) ^ 2 := by
    exact_mod_cast (Nat.lt_succ_sqrt' n).le
  rw [div_pow, le_div_iff₀ (by positivity)]
  exact hnq.trans hs

lemma sqrtLo_le_sqrt (q : ℚ) : ((sqrtLo q : ℚ) : ℝ) ≤ Real.sqrt (q : ℝ) := by
  rcases le_or_gt q 0 with hq | hq
  · have : sqrtLo q = 0 := by unfold sqrtLo; rw [if_pos hq]
    rw [this]; simp
  · apply Real.le_sqrt_of_sq_le
    exact_mod_cast sqrtLo_sq_le hq

lemma sqrt_le_sqrtHi (q : ℚ) : Real.sqrt (q : ℝ) ≤ ((sqrtHi q : ℚ) : ℝ) := by
  rcases le_or_gt q 0 with hq | hq
  · have : sqrtHi q = 0 := by unfold sqrtHi; rw [if_pos hq]
    rw [this, Real.sqrt_eq_zero_of_nonpos (by exact_mod_cast hq)]; simp
  · rw [Real.sqrt_le_left (by exact_mod_cast sqrtHi_nonneg q)]
    exact_mod_cast le_sqrtHi_sq hq

/-- `Real.sqrt` of a point of `a` lies in `sqrt a`, for every `a` (`Real.sqrt x = 0` for `x ≤ 0`,
and `sqrtLo`/`sqrtHi` return `0` on nonpositive input). -/
theorem sqrt_sound' (a : I) (x : ℝ) (h : Mem x a) : Mem (Real.sqrt x) (sqrt a) :=
  mem_of_monotoneOn (Monotone.monotoneOn (fun _ _ => Real.sqrt_le_sqrt) _) h (sqrtLo_le_sqrt a.lo)
    (sqrt_le_sqrtHi a.hi)

/-- `sqrt_sound'` with the sign hypothesis under which `sqrt` is called; the proof does not use it. -/
theorem sqrt_sound (a : I) (x : ℝ) (h : Mem x a) (_h0 : 0 ≤ a.lo) : Mem (Real.sqrt x) (sqrt a) :=
  sqrt_sound' a x h

example : Mem (Real.sqrt 2) (sqrt (ofRat 2)) :=
  sqrt_sound (ofRat 2) 2 (by simpa using ofRat_sound 2) (by decide)

lemma one_le_sqrtLo_mul {q : ℚ} (hq : 1 ≤ q) : 1 ≤ sqrtLo q * (scaleN : ℚ) := by
  unfold sqrtLo
  rw [if_neg (not_le.mpr (lt_of_lt_of_le one_pos hq))]
  simp only
  rw [div_mul_cancel₀ _ scaleN_pos.ne']
  have h1 : (1 : ℤ) ≤ (q * ((scaleN * scaleN : ℕ) : ℚ)).floor := by
    rw [Rat.le_floor_iff]
    have hS : (1 : ℚ) ≤ ((scaleN * scaleN : ℕ) : ℚ) := by
      rw [scaleN2_cast]; nlinarith [scaleN_ge_one]
    have : (1 : ℚ) ≤ q * ((scaleN * scaleN : ℕ) : ℚ) := by nlinarith
    simpa using this
  have h2 : 1 ≤ (q * ((scaleN * scaleN : ℕ) : ℚ)).floor.toNat := by omega
  have h3 : 0 < Nat.sqrt (q * ((scaleN * scaleN : ℕ) : ℚ)).floor.toNat := Nat.sqrt_pos.mpr h2
  exact_mod_cast h3

/-- The lower endpoint of `sqrt a` is positive as soon as `a.lo ≥ 1`. -/
lemma sqrtLo_pos {q : ℚ} (hq : 1 ≤ q) : 0 < sqrtLo q :=
  (mul_pos_iff_of_pos_right scaleN_pos).1 (one_pos.trans_le (one_le_sqrtLo_mul hq))

lemma pow2_eq (e : ℤ) : pow2 e = (2 : ℚ) ^ e := by
  unfold pow2
  split_ifs with h
  · obtain ⟨n, rfl⟩ := Int.eq_ofNat_of_zero_le h
    simp
  · rw [ge_iff_le, not_le] at h
    obtain ⟨n, hn⟩ := Int.eq_ofNat_of_zero_le (by omega : 0 ≤ -e)
    have he : e = -(n : ℤ) := by omega
    subst he
    simp

/-- The first guess `a = log2 num - log2 den` satisfies `2^(a-1) < q < 2^(a+1)`. -/
lemma ilog2_approx (q : ℚ) (hq : 0 < q) :
    (2 : ℚ) ^ ((Nat.log2 q.num.toNat : ℤ) - (Nat.log2 q.den : ℤ) - 1) < q ∧
      q < (2 : ℚ) ^ ((Nat.log2 q.num.toNat : ℤ) - (Nat.log2 q.den : ℤ) + 1) := by
  have hnum : 0 < q.num := Rat.num_pos.mpr hq
  have hden : 0 < q.den := q.den_pos
  have hqe : q = (q.num.toNat : ℚ) / (q.den : ℚ) := by
    have : ((q.num.toNat : ℤ) : ℚ) = (q.num : ℚ) := by rw [Int.toNat_of_nonneg hnum.le]
    rw [← Int.cast_natCast, this]
    exact (Rat.num_div_den q).symm
  have hn0 : q.num.toNat ≠ 0 := by omega
  generalize q.num.toNat = n at hqe hn0
  generalize q.den = d at hqe hden
  have hd0 : d ≠ 0 := by omega
  have h1 : ((2 ^ n.log2 : ℕ) : ℚ) ≤ (n : ℚ) := by exact_mod_cast Nat.log2_self_le hn0
  have h2 : (n : ℚ) < ((2 ^ (n.log2 + 1) : ℕ) : ℚ) := by exact_mod_cast Nat.lt_log2_self (n := n)
  have h3 : ((2 ^ d.log2 : ℕ) : ℚ) ≤ (d : ℚ) := by exact_mod_cast Nat.log2_self_le hd0
  have h4 : (d : ℚ) < ((2 ^ (d.log2 + 1) : ℕ) : ℚ) := by exact_mod_cast Nat.lt_log2_self (n := d)
  push_cast at h1 h2 h3 h4
  have hnq : (0 : ℚ) < n := by exact_mod_cast Nat.pos_of_ne_zero hn0
  have hdq : (0 : ℚ) < d := by exact_mod_cast hden
  have hp1 : (0 : ℚ) < 2 ^ n.log2 := by positivity
  have hp2 : (0 : ℚ) < 2 ^ d.log2 := by positivity
  have hp3 : (0 : ℚ) < 2 ^ (d.log2 + 1) := by positivity
  constructor
  · rw [show (n.log2 : ℤ) - (d.log2 : ℤ) - 1 = (n.log2 : ℤ) - ((d.log2 + 1 : ℕ) : ℤ) by push_cast; ring,
      zpow_sub₀ two_ne_zero, zpow_natCast, zpow_natCast, hqe, div_lt_div_iff₀ hp3 hdq]
    calc (2 : ℚ) ^ n.log2 * d ≤ n * d := mul_le_mul_of_nonneg_right h1 hdq.le
      _ < n * 2 ^ (d.log2 + 1) := mul_lt_mul_of_pos_left h4 hnq
  · rw [show (n.log2 : ℤ) - (d.log2 : ℤ) + 1 = ((n.log2 + 1 : ℕ) : ℤ) - (d.log2 : ℤ) by push_cast; ring,
      zpow_sub₀ two_ne_zero, zpow_natCast, zpow_natCast, hqe, div_lt_div_iff₀ hdq hp2]
    calc (n : ℚ) * 2 ^ d.log2 < 2 ^ (n.log2 + 1) * 2 ^ d.log2 := mul_lt_mul_of_pos_right h2 hp2
      _ ≤ 2 ^ (n.log2 + 1) * d := mul_le_mul_of_nonneg_left h3 (by positivity)

/-- For positive `q`, `ilog2 q` is the binary exponent: `2^e ≤ q < 2^(e+1)`. -/
theorem ilog2_spec (q : ℚ) (hq : 0 < q) : pow2 (ilog2 q) ≤ q ∧ q < pow2 (ilog2 q + 1) := by
  obtain ⟨hlo, hhi⟩ := ilog2_approx q hq
  unfold ilog2
  simp only [pow2_eq]
  generalize ((Nat.log2 q.num.toNat : ℤ) - (Nat.log2 q.den : ℤ)) = a at hlo hhi ⊢
  have h12 : (2 : ℚ) ^ (a + 1) ≤ (2 : ℚ) ^ (a + 1 + 1) :=
    zpow_le_zpow_right₀ (by norm_num) (by omega)
  split_ifs with h1 h2
  · exact ⟨h1, hhi.trans_le h12⟩
  · exact ⟨h2, hhi⟩
  · rw [sub_add_cancel]
    exact ⟨hlo.le, not_le.mp h2⟩

example : pow2 (ilog2 (10 / 3)) ≤ 10 / 3 ∧ (10 / 3 : ℚ) < pow2 (ilog2 (10 / 3) + 1) :=
  ilog2_spec _ (by norm_num)

/-- The fold inside `atanh2F`, run for `j` steps. -/
def atanhFoldF (z : FI) (j : ℕ) : FI × FI :=
  (List.range j).foldl (fun (acc : FI × FI) k =>
    let (s, pw) := acc
    (FI.add s (FI.divNat (FI.mulInt pw 2) (2 * k + 1)), FI.mul pw (FI.sq z))) ((⟨0, 0⟩ : FI), z)

lemma atanhFoldF_zero (z : FI) : atanhFoldF z 0 = ((⟨0, 0⟩ : FI), z) := rfl

lemma atanhFoldF_succ (z : FI) (j : ℕ) :
    atanhFoldF z (j + 1) =
      (FI.add (atanhFoldF z j).1 (FI.divNat (FI.mulInt (atanhFoldF z j).2 2) (2 * j + 1)),
        FI.mul (atanhFoldF z j).2 (FI.sq z)) := by
  unfold atanhFoldF
  rw [List.range_succ, List.foldl_append]
  rfl

/-- `atanh2F` is the 46-step fold, widened by the remainder bound computed from the last power. -/
lemma atanh2F_eq (z : FI) :
    atanh2F z =
      FI.widen (atanhFoldF z 46).1
        (-(Int.fdiv (-(FI.imax (-(atanhFoldF z 46).2.lo) (atanhFoldF z 46).2.hi * 9))
            (4 * ((2 * 45 + 3 : ℕ) : ℤ))) + 1) :=
  rfl

/-- Invariant of the fold: after `j` steps the first component encloses the `j`-term partial sum
and the second component encloses `x^(2j+1)`. -/
lemma atanhFoldF_sound {x : ℝ} {z : FI} (hx : Mem x z.toI) (j : ℕ) :
    Mem (∑ k ∈ Finset.range j, 2 * (1 / (2 * (k : ℝ) + 1)) * x ^ (2 * k + 1)) (atanhFoldF z j).1.toI ∧
      Mem (x ^ (2 * j + 1)) (atanhFoldF z j).2.toI := by
  induction j with
  | zero =>
    rw [atanhFoldF_zero]
    refine ⟨?_, by simpa using hx⟩
    rw [FI.mem_toI]
    simp
  | succ j ih =>
    rw [atanhFoldF_succ]
    constructor
    · have h := FI.add_sound ih.1
        (FI.divNat_sound (FI.mulInt_sound ih.2 2) (n := 2 * j + 1) (by omega))
      convert h using 1
      rw [Finset.sum_range_succ]
      push_cast
      ring
    · have h := FI.mul_sound ih.2 (FI.sq_sound hx)
      convert h using 1
      ring

/-- Tail bound of the series `log(1+x) - log(1-x) = Σ 2 x^(2k+1)/(2k+1)`. -/
lemma atanh_series_bound (x : ℝ) (hx : |x| < 1) (n : ℕ) :
    |Real.log (1 + x) - Real.log (1 - x)
        - ∑ k ∈ Finset.range n, 2 * (1 / (2 * (k : ℝ) + 1)) * x ^ (2 * k + 1)|
      ≤ 2 * |x| ^ (2 * n + 1) / ((2 * (n : ℝ) + 1) * (1 - x ^ 2)) := by
  have hx2 : x ^ 2 < 1 := (sq_lt_one_iff_abs_lt_one x).2 hx
  have h' := (hasSum_nat_add_iff' n).mpr (Real.hasSum_log_sub_log_of_abs_lt_one hx)
  -- termwise `|2 x^(2(k+n)+1)/(2(k+n)+1)| ≤ 2/(2n+1)·|x|^(2n+1)·(x²)^k`, a geometric series
  have hg := ((hasSum_geometric_of_lt_one (sq_nonneg x) hx2).mul_left (|x| ^ (2 * n + 1))).mul_left
    (2 * (1 / (2 * (n : ℝ) + 1)))
  refine (h'.norm_le_of_bounded hg fun k => ?_).trans_eq
    (by rw [mul_one_div, ← div_eq_mul_inv, div_mul_div_comm])
  have hn : (0 : ℝ) < 2 * (n : ℝ) + 1 := by positivity
  have hk : (0 : ℝ) < 1 / (2 * ((k + n : ℕ) : ℝ) + 1) := by positivity
  rw [Real.norm_eq_abs, abs_mul, abs_pow, abs_of_pos (mul_pos two_pos hk),
    show 2 * (k + n) + 1 = 2 * n + 1 + 2 * k by ring, pow_add, pow_mul, sq_abs]
  refine mul_le_mul_of_nonneg_right (mul_le_mul_of_nonneg_left ?_ zero_le_two) (by positivity)
  exact one_div_le_one_div_of_le hn (by push_cast; linarith [(Nat.cast_nonneg k : (0 : ℝ) ≤ k)])

/-- For `|x| ≤ 1/3`, where `1/(1−x²) ≤ 9/8`, the tail of the series after `n+1` terms is at most
`(9/4)·|x|^(2n+3)/(2n+3)`: the remainder term that `atanh2F` adds. -/
lemma atanh_tail (n : ℕ) (x : ℝ) (h : |x| ≤ 1 / 3) :
    |Real.log (1 + x) - Real.log (1 - x)
        - ∑ k ∈ Finset.range (n + 1), 2 * (1 / (2 * (k : ℝ) + 1)) * x ^ (2 * k + 1)|
      ≤ |x| ^ (2 * n + 3) * 9 / (4 * (2 * (n : ℝ) + 3)) := by
  refine (atanh_series_bound x (h.trans_lt (by norm_num)) (n + 1)).trans ?_
  have hx2 : x ^ 2 ≤ 1 / 9 := by
    rw [← sq_abs]; exact (pow_le_pow_left₀ (abs_nonneg x) h 2).trans_eq (by norm_num)
  have hp : 0 ≤ |x| ^ (2 * n + 3) * (2 * (n : ℝ) + 3) := by positivity
  rw [show 2 * (n + 1) + 1 = 2 * n + 3 by ring,
    div_le_div_iff₀ (mul_pos (by positivity) (by linarith only [hx2])) (by positivity)]
  push_cast
  linarith only [mul_nonneg hp (by linarith only [hx2] : 0 ≤ 1 - x ^ 2 - 8 / 9)]
/-- The fixed-point kernel `atanh2F z` encloses `log((1+x)/(1-x))` for every real `x` in the
fixed-point interval `z`, provided `|x| ≤ 1/3`. -/
theorem atanh2F_sound {x : ℝ} {z : FI} (hx : Mem x z.toI) (h : |x| ≤ 1 / 3) :
    Mem (Real.log ((1 + x) / (1 - x))) (atanh2F z).toI := by
  have hlt := abs_le.mp h
  -- the model's `n = 45`: 46 terms, last power `x^(2n+3) = x^93`, divisor `4·(2n+3) = 372`
  rw [Real.log_div (by linarith only [hlt.1]) (by linarith only [hlt.2]), atanh2F_eq]
  obtain ⟨hs, hp⟩ := atanhFoldF_sound hx 46
  refine FI.widen_sound hs ?_
  have hpa := FI.abs_le_imax hp
  rw [abs_pow, show 2 * 46 + 1 = 93 by norm_num] at hpa
  have htail := atanh_tail 45 x h
  simp only [Nat.reduceAdd] at htail
  rw [show |x| ^ (2 * 45 + 3) * 9 / (4 * (2 * ((45 : ℕ) : ℝ) + 3)) = |x| ^ 93 * 9 / 372 by
    norm_num] at htail
  rw [show (4 * ((2 * 45 + 3 : ℕ) : ℤ)) = 372 by norm_num]
  generalize atanhFoldF z 46 = r at hs hp hpa ⊢
  generalize FI.imax (-r.2.lo) r.2.hi = pa at hpa ⊢
  have hup := FI.real_le_neg_fdiv_neg (pa * 9) (d := 372) (by norm_num)
  rw [Int.cast_add, Int.cast_one]
  have h1 : |x| ^ 93 * 9 / 372 * FI.SR ≤ ((pa * 9 : ℤ) : ℝ) / ((372 : ℤ) : ℝ) := by
    push_cast
    linarith only [hpa]
  linarith only [mul_le_mul_of_nonneg_right htail FI.SR_pos.le, h1, hup]

example : Mem (Real.log ((1 + (((-1 / 5 : ℚ)) : ℝ)) / (1 - (((-1 / 5 : ℚ)) : ℝ))))
    (atanh2F (FI.ofRat (-1 / 5))).toI :=
  atanh2F_sound (FI.ofRat_sound _) (by rw [abs_le]; push_cast; constructor <;> norm_num)

/-- `atanh2 z` encloses `log((1+z)/(1-z))` for every rational `z` with `|z| ≤ 1/3`. -/
theorem atanh2_sound (z : ℚ) (hz : |z| ≤ 1 / 3) :
    Mem (Real.log ((1 + (z : ℝ)) / (1 - (z : ℝ)))) (atanh2 z) := by
  have hzR : |(z : ℝ)| ≤ 1 / 3 := by
    have h : ((|z| : ℚ) : ℝ) ≤ ((1 / 3 : ℚ) : ℝ) := Rat.cast_le.mpr hz
    rw [Rat.cast_abs] at h
    push_cast at h
    exact h
  exact atanh2F_sound (FI.ofRat_sound z) hzR

example : Mem (Real.log ((1 + ((1 / 7 : ℚ) : ℝ)) / (1 - ((1 / 7 : ℚ) : ℝ)))) (atanh2 (1 / 7)) :=
  atanh2_sound _ (by rw [abs_le]; norm_num)

/-! #### the hypothesis `|z| ≤ 1/3` is needed

The remainder term of `atanh2F` hard-codes `1/(1-z²) ≤ 9/8`, which is false for `|z| > 1/3`; the
enclosure really fails from about `|z| ≈ 0.43` on.  Concretely `atanh2 (1/2)` misses `log 3`: its
upper end is below the 48-term partial sum of the (positive-term) series. -/

/-- rational partial sum of the `2·atanh` series, as a list fold (kernel-evaluable) -/
def atanhPartialL (z : ℚ) (n : ℕ) : ℚ :=
  (List.range n).foldl (fun s (k : ℕ) => s + 2 * (1 / (2 * (k : ℚ) + 1)) * z ^ (2 * k + 1)) 0

lemma atanhPartialL_eq (z : ℚ) (n : ℕ) :
    atanhPartialL z n = ∑ k ∈ Finset.range n, 2 * (1 / (2 * (k : ℚ) + 1)) * z ^ (2 * k + 1) := by
  induction n with
  | zero => rfl
  | succ n ih =>
    rw [Finset.sum_range_succ, ← ih]
    unfold atanhPartialL
    rw [List.range_succ, List.foldl_append]
    rfl

/-- every partial sum of the series is a lower bound of `log(1+x) - log(1-x)` for `0 ≤ x < 1` -/
lemma atanh_partial_le (x : ℝ) (h0 : 0 ≤ x) (h1 : x < 1) (n : ℕ) :
    ∑ k ∈ Finset.range n, 2 * (1 / (2 * (k : ℝ) + 1)) * x ^ (2 * k + 1)
      ≤ Real.log (1 + x) - Real.log (1 - x) :=
  sum_le_hasSum (Finset.range n) (fun i _ => by positivity)
    (Real.hasSum_log_sub_log_of_abs_lt_one (abs_lt.2 ⟨by linarith, h1⟩))

/-- exact rational comparison, evaluated by the kernel; 48 terms are the first partial sum above
the upper end -/
lemma atanh2_half_hi_lt : (atanh2 (1 / 2)).hi < atanhPartialL (1 / 2) 48 := by
  decide +kernel

/-- The hypothesis `|z| ≤ 1/3` of `atanh2_sound` cannot be weakened to `|z| < 1`:
`atanh2 (1/2)` does not contain `log((1+1/2)/(1-1/2)) = log 3`. -/
lemma atanh2_unsound_half : ¬ Mem (Real.log 3) (atanh2 (1 / 2)) := by
  intro h
  have h3 : (((atanh2 (1 / 2)).hi : ℚ) : ℝ) < ((atanhPartialL (1 / 2) 48 : ℚ) : ℝ) :=
    Rat.cast_lt.mpr atanh2_half_hi_lt
  have h4 := atanh_partial_le (1 / 2) (by norm_num) (by norm_num) 48
  rw [← Real.log_div (by norm_num) (by norm_num),
    show (1 + 1 / 2 : ℝ) / (1 - 1 / 2) = 3 by norm_num] at h4
  rw [atanhPartialL_eq] at h3
  push_cast at h3
  exact lt_irrefl _ (h.2.trans_lt (h3.trans_le h4))

theorem ln2_sound : Mem (Real.log 2) ln2 := by
  have h := atanh2_sound (1 / 3) (by rw [abs_le]; norm_num)
  have e : (1 + (((1 / 3 : ℚ)) : ℝ)) / (1 - (((1 / 3 : ℚ)) : ℝ)) = 2 := by
    push_cast; norm_num
  rw [e] at h
  exact h

example : ((ln2.lo : ℚ) : ℝ) ≤ Real.log 2 ∧ Real.log 2 ≤ ((ln2.hi : ℚ) : ℝ) := ln2_sound

/-- Body of `logQ` after range reduction to mantissa `m` and exponent `e`. -/
def logCore (m : ℚ) (e : ℤ) : I :=
  add (atanh2 ((m - 1) / (m + 1))) (scale (e : Rat) ln2)

lemma logQ_eq (q : ℚ) (hq : 0 < q) :
    logQ q =
      if q / pow2 (ilog2 q) > 4 / 3 then logCore (q / pow2 (ilog2 q) / 2) (ilog2 q + 1)
      else logCore (q / pow2 (ilog2 q)) (ilog2 q) := by
  unfold logQ
  rw [if_neg (not_le.mpr hq)]
  split_ifs with h
  · simp only [h, if_true]; rfl
  · simp only [h, if_false]; rfl

lemma logCore_sound (m : ℚ) (e : ℤ) (h1 : 1 / 2 ≤ m) (h2 : m ≤ 2) :
    Mem (Real.log (m : ℝ) + (e : ℝ) * Real.log 2) (logCore m e) := by
  unfold logCore
  have hm1 : 0 < m + 1 := by linarith
  have hzl : -(1 / 3) ≤ (m - 1) / (m + 1) := by rw [le_div_iff₀ hm1]; linarith
  have hzh : (m - 1) / (m + 1) ≤ 1 / 3 := by rw [div_le_iff₀ hm1]; linarith
  have hmz : (m : ℝ) = (1 + (((m - 1) / (m + 1) : ℚ) : ℝ)) / (1 - (((m - 1) / (m + 1) : ℚ) : ℝ)) := by
    have : (0 : ℝ) < (m : ℝ) + 1 := by exact_mod_cast hm1
    push_cast
    field_simp
    ring
  generalize (m - 1) / (m + 1) = z at hzl hzh hmz ⊢
  apply add_sound
  · rw [hmz]
    exact atanh2_sound z (abs_le.mpr ⟨hzl, hzh⟩)
  · have := scale_sound (e : ℚ) ln2_sound
    push_cast at this
    exact this

/-- `logQ q` encloses `log q` for every positive rational `q`. -/
theorem logQ_sound (q : ℚ) (hq : 0 < q) : Mem (Real.log (q : ℝ)) (logQ q) := by
  obtain ⟨h1, h2⟩ := ilog2_spec q hq
  rw [logQ_eq q hq]
  rw [pow2_eq] at h1 h2
  simp only [pow2_eq]
  generalize ilog2 q = e0 at h1 h2 ⊢
  have hp : (0 : ℚ) < 2 ^ e0 := by positivity
  rw [zpow_add_one₀ two_ne_zero] at h2
  have hm1 : 1 ≤ q / 2 ^ e0 := by rw [le_div_iff₀ hp]; linarith
  have hm2 : q / 2 ^ e0 < 2 := by rw [div_lt_iff₀ hp]; linarith
  have hpR : (0 : ℝ) < (2 : ℝ) ^ e0 := by positivity
  have hqR : (0 : ℝ) < (q : ℝ) := by exact_mod_cast hq
  split_ifs with h
  · have := logCore_sound (q / 2 ^ e0 / 2) (e0 + 1) (by linarith) (by linarith)
    convert this using 1
    push_cast
    rw [Real.log_div (by positivity) (by norm_num), Real.log_div hqR.ne' hpR.ne', Real.log_zpow]
    ring
  · have := logCore_sound (q / 2 ^ e0) e0 (by linarith) (by linarith)
    convert this using 1
    push_cast
    rw [Real.log_div hqR.ne' hpR.ne', Real.log_zpow]
    ring

example : Mem (Real.log ((10 : ℚ) : ℝ)) (logQ 10) := logQ_sound _ (by decide)

/-- `log a` encloses `log x` for every `x` in an interval `a` with positive lower end. -/
theorem log_sound (a : I) (x : ℝ) (h : Mem x a) (h0 : 0 < a.lo) : Mem (Real.log x) (log a) := by
  have hl : (0 : ℝ) < (a.lo : ℝ) := by exact_mod_cast h0
  have hq : 0 < a.hi := by exact_mod_cast hl.trans_le (h.1.trans h.2)
  exact mem_of_monotoneOn (Real.strictMonoOn_log.monotoneOn.mono fun u hu => hl.trans_le hu) h
    (logQ_sound _ h0).1 (logQ_sound _ hq).2

example : Mem (Real.log (5 / 2)) (log ⟨2, 3⟩) :=
  log_sound ⟨2, 3⟩ (5 / 2) (mem_of_le_of_le (by norm_num) (by norm_num)) (by decide)

section ExpSound
open Finset

/-- The reduced argument `q / 2^k` is below `1/64` in absolute value, as the model's comment on
`expHalvings` says. -/
lemma expHalvings_spec64 (q : ℚ) : |q| / (2 : ℚ) ^ (expHalvings q) < 1 / 64 := by
  have hpos : (0 : ℚ) < (2 : ℚ) ^ (expHalvings q) := by positivity
  rw [div_lt_iff₀ hpos]
  unfold expHalvings
  by_cases h : q = 0
  · simp [h]
  · have hb : (q == 0) = false := by simpa using h
    rw [hb]
    simp only [Bool.false_eq_true, if_false]
    have hpos : 0 < ratAbs q := by rw [ratAbs_eq]; exact abs_pos.mpr h
    obtain ⟨-, h2⟩ := ilog2_spec _ hpos
    rw [pow2_eq] at h2
    rw [ratAbs_eq] at h2 ⊢
    generalize ilog2 |q| = e at h2 ⊢
    have h3 : (2 : ℚ) ^ (e + 7) ≤ (2 : ℚ) ^ (((e + 7).toNat : ℕ) : ℤ) :=
      zpow_le_zpow_right₀ (by norm_num) (by omega)
    rw [zpow_natCast] at h3
    have h4 : (2 : ℚ) ^ (e + 7) = (2 : ℚ) ^ (e + 1) * 64 := by
      rw [show e + 7 = (e + 1) + 6 by ring, zpow_add₀ two_ne_zero]; norm_num
    rw [h4] at h3
    linarith

/-- the weaker form under which `expF_sound` uses it: the reduced argument is at most `1` -/
lemma expHalvings_spec (q : ℚ) : |q| ≤ (2 : ℚ) ^ (expHalvings q) := by
  have hpos : (0 : ℚ) < (2 : ℚ) ^ (expHalvings q) := by positivity
  have := (div_lt_iff₀ hpos).1 (expHalvings_spec64 q)
  linarith only [this, hpos]

/-- Taylor remainder of `exp` on `[-1, 1]` after `n ≥ 1` terms, in the form `2|x|^n/n!` that
`expSmallF` adds.  The model has `expTerms = 16`, hence `n = 17` terms and `17!` below. -/
lemma exp_taylor_bound (x : ℝ) (hx : |x| ≤ 1) {n : ℕ} (hn : 0 < n) :
    |Real.exp x - ∑ m ∈ range n, x ^ m / (m.factorial : ℝ)|
      ≤ 2 * |x| ^ n / (n.factorial : ℝ) := by
  refine (Real.exp_bound hx hn).trans ?_
  have hF : (0 : ℝ) < (n.factorial : ℝ) := by positivity
  have hn1 : (1 : ℝ) ≤ n := by exact_mod_cast hn
  generalize (n.factorial : ℝ) = F at hF ⊢
  have h2 : ((Nat.succ n : ℕ) : ℝ) / (F * (n : ℝ)) ≤ 2 / F := by
    rw [div_le_div_iff₀ (by positivity) hF]
    push_cast
    linarith only [mul_nonneg hF.le (sub_nonneg.2 hn1)]
  calc |x| ^ n * (((Nat.succ n : ℕ) : ℝ) / (F * (n : ℝ)))
      ≤ |x| ^ n * (2 / F) := mul_le_mul_of_nonneg_left h2 (by positivity)
    _ = 2 * |x| ^ n / F := by ring

/-- real-valued mirror of `expHorner` -/
noncomputable def hornerR (x : ℝ) (n : ℕ) : ℕ → ℕ → ℝ
  | 0, _ => 1
  | f + 1, j => if j > n then 1 else 1 + x * hornerR x n f (j + 1) / (j : ℝ)

lemma expHorner_sound {x : ℝ} {r : FI} (hx : Mem x r.toI) (n : ℕ) :
    ∀ f j, 0 < j → Mem (hornerR x n f j) (expHorner r n f j).toI := by
  intro f
  induction f with
  | zero => intro j _; exact FI.one_sound
  | succ f ih =>
    intro j hj
    unfold hornerR expHorner
    split_ifs
    · exact FI.one_sound
    · exact FI.add_sound FI.one_sound
        (FI.divNat_sound (FI.mul_sound hx (ih (j + 1) (by omega))) hj)

/-- Horner form of the Taylor polynomial of `exp`, from the `(i+1)`-st factor on. -/
lemma hornerR_eq_sum (x : ℝ) (n : ℕ) : ∀ d f i : ℕ, i + d = n → d ≤ f →
    hornerR x n f (i + 1) = ∑ m ∈ range (d + 1), x ^ m * (i.factorial : ℝ) / ((m + i).factorial : ℝ) := by
  intro d
  induction d with
  | zero =>
    intro f i hi _
    have hf : (i.factorial : ℝ) ≠ 0 := by positivity
    rw [sum_range_one, pow_zero, one_mul, zero_add, div_self hf]
    cases f with
    | zero => rfl
    | succ f => rw [hornerR, if_pos (by omega)]
  | succ d ih =>
    intro f i hi hf
    obtain ⟨f, rfl⟩ : ∃ f', f = f' + 1 := ⟨f - 1, by omega⟩
    have hi1 : ((i + 1 : ℕ) : ℝ) ≠ 0 := by positivity
    have hf0 : (i.factorial : ℝ) ≠ 0 := by positivity
    rw [hornerR, if_neg (by omega), ih f (i + 1) (by omega) (by omega), sum_range_succ' _ (d + 1),
      pow_zero, one_mul, zero_add, div_self hf0, add_comm, mul_sum, sum_div]
    congr 1
    refine sum_congr rfl fun m _ => ?_
    rw [show m + 1 + i = m + (i + 1) by ring, Nat.factorial_succ i]
    push_cast
    field_simp
    ring

lemma hornerR_eq (x : ℝ) :
    hornerR x 16 17 1 = ∑ m ∈ range 17, x ^ m / (m.factorial : ℝ) := by
  rw [hornerR_eq_sum x 16 16 17 0 rfl (by norm_num)]
  refine sum_congr rfl fun m _ => ?_
  rw [Nat.factorial_zero, Nat.cast_one, mul_one, add_zero]

lemma expFact_eq : expFact = (17).factorial := by
  decide

/-- `fpPow ra m` over-approximates `(ra/2^p)^m` on the grid (for `ra ≥ 0`). -/
lemma fpPow_ge {ra : ℤ} (h0 : 0 ≤ ra) (m : ℕ) :
    ((ra : ℝ) / FI.SR) ^ m ≤ ((fpPow ra m : ℤ) : ℝ) / FI.SR := by
  have hS := FI.SR_pos
  have hr : (0 : ℝ) ≤ (ra : ℝ) / FI.SR := div_nonneg (by exact_mod_cast h0) hS.le
  induction m with
  | zero =>
    unfold fpPow
    rw [FI.SR_int, div_self hS.ne']
    simp
  | succ m ih =>
    unfold fpPow
    have h1 := FI.le_cdivP (fpPow ra m * ra)
    push_cast at h1
    calc ((ra : ℝ) / FI.SR) ^ (m + 1) = ((ra : ℝ) / FI.SR) ^ m * ((ra : ℝ) / FI.SR) := pow_succ _ _
      _ ≤ ((fpPow ra m : ℤ) : ℝ) / FI.SR * ((ra : ℝ) / FI.SR) :=
          mul_le_mul_of_nonneg_right ih hr
      _ = ((fpPow ra m : ℤ) : ℝ) * (ra : ℝ) / FI.SR / FI.SR := by ring
      _ ≤ _ := div_le_div_of_nonneg_right h1 hS.le

/-- the integer remainder term of `expSmallF` -/
def expRemF (r : FI) : ℤ :=
  -(Int.fdiv (-(2 * fpPow (FI.imax (-r.lo) r.hi) (expTerms + 1))) (expFact : ℤ)) + 1

lemma expSmallF_eq (r : FI) :
    expSmallF r = ⟨FI.imax ((expHorner r expTerms (expTerms + 1) 1).lo - expRemF r) 0,
      (expHorner r expTerms (expTerms + 1) 1).hi + expRemF r⟩ := rfl

/-- The remainder term dominates `2|x|^17/17!` on the grid. -/
lemma expRemF_ge {x : ℝ} {r : FI} (hx : Mem x r.toI) :
    2 * |x| ^ 17 / ((17).factorial : ℝ) * FI.SR ≤ ((expRemF r : ℤ) : ℝ) := by
  have hS := FI.SR_pos
  have hra := FI.abs_le_imax hx
  have hra0 : 0 ≤ FI.imax (-r.lo) r.hi := by
    exact_mod_cast (mul_nonneg (abs_nonneg x) hS.le).trans hra
  have h3 : |x| ^ 17 * FI.SR ≤ ((fpPow (FI.imax (-r.lo) r.hi) 17 : ℤ) : ℝ) :=
    (le_div_iff₀ hS).1
      ((pow_le_pow_left₀ (abs_nonneg x) ((le_div_iff₀ hS).2 hra) 17).trans (fpPow_ge hra0 17))
  have h1 := FI.real_le_neg_fdiv_neg (2 * fpPow (FI.imax (-r.lo) r.hi) 17)
    (d := ((17).factorial : ℤ)) (by exact_mod_cast Nat.factorial_pos 17)
  have hF : (0 : ℝ) < ((17).factorial : ℝ) := by positivity
  rw [expRemF, show expTerms + 1 = 17 from rfl, expFact_eq, Int.cast_add, Int.cast_one]
  refine le_trans ?_ (h1.trans (lt_add_one _).le)
  rw [Int.cast_natCast, div_mul_eq_mul_div, Int.cast_mul, Int.cast_ofNat]
  exact div_le_div_of_nonneg_right (by linarith only [h3]) hF.le

lemma expSmallF_sound {x : ℝ} {r : FI} (hx : Mem x r.toI) (h1 : |x| ≤ 1) :
    Mem (Real.exp x) (expSmallF r).toI := by
  have hS := FI.SR_pos
  have hp := expHorner_sound hx expTerms (expTerms + 1) 1 one_pos
  have hp' : hornerR x expTerms (expTerms + 1) 1 = hornerR x 16 17 1 := rfl
  rw [hp', hornerR_eq] at hp
  have hrem := expRemF_ge hx
  have hb := abs_le.mp (exp_taylor_bound x h1 (n := 17) (by norm_num))
  rw [expSmallF_eq]
  generalize expHorner r expTerms (expTerms + 1) 1 = p at hp
  generalize expRemF r = rem at hrem
  generalize (∑ m ∈ range 17, x ^ m / (m.factorial : ℝ)) = T at hp hb
  generalize 2 * |x| ^ 17 / ((17).factorial : ℝ) = R at hrem hb
  rw [FI.mem_toI] at hp ⊢
  simp only [FI.imax_eq]
  push_cast
  have e1 : 0 ≤ Real.exp x * FI.SR := mul_nonneg (Real.exp_pos x).le hS.le
  have h1 := mul_le_mul_of_nonneg_right hb.1 hS.le
  have h2 := mul_le_mul_of_nonneg_right hb.2 hS.le
  exact ⟨max_le (by linarith only [hp.1, h1, hrem]) e1, by linarith only [hp.2, h2, hrem]⟩

lemma expSmallF_lo_nonneg (r : FI) : 0 ≤ (expSmallF r).lo := by
  rw [expSmallF_eq]
  simp only [FI.imax_eq]
  exact le_max_right _ _

lemma sqFoldF_sound (n : ℕ) {y : ℝ} {a : FI} (h : Mem y a.toI) :
    Mem (y ^ (2 ^ n)) ((List.range n).foldl (fun acc _ => FI.sq acc) a).toI := by
  induction n with
  | zero => simpa using h
  | succ n ih =>
    rw [List.range_succ, List.foldl_append]
    simp only [List.foldl_cons, List.foldl_nil]
    rw [pow_succ, pow_mul]
    exact FI.sq_sound ih

lemma sqFoldF_lo_nonneg (n : ℕ) {a : FI} (h : 0 ≤ a.lo) :
    0 ≤ ((List.range n).foldl (fun acc _ => FI.sq acc) a).lo := by
  induction n with
  | zero => simpa using h
  | succ n ih =>
    rw [List.range_succ, List.foldl_append]
    simp only [List.foldl_cons, List.foldl_nil]
    exact FI.sq_lo_nonneg ih

lemma expF_eq (q : ℚ) :
    expF q = (List.range (expHalvings q)).foldl (fun acc _ => FI.sq acc)
      (expSmallF (FI.ofRat (q / ((2 ^ expHalvings q : ℕ) : ℚ)))) := rfl

/-- For every rational `q`, the real number `exp q` lies between the two fixed-point endpoints
`(expF q).lo / 2^128` and `(expF q).hi / 2^128`. -/
theorem expF_sound (q : ℚ) : Mem (Real.exp (q : ℝ)) (expF q).toI := by
  rw [expF_eq]
  set k := expHalvings q with hk
  have hk2 : |q| ≤ (2 : ℚ) ^ k := expHalvings_spec q
  have hpos : (0 : ℚ) < (2 : ℚ) ^ k := by positivity
  have hcast : ((2 ^ k : ℕ) : ℚ) = (2 : ℚ) ^ k := by push_cast; rfl
  rw [hcast]
  have hr1 : |q / (2 : ℚ) ^ k| ≤ 1 := by
    rw [abs_div, abs_of_pos hpos, div_le_one hpos]; exact hk2
  have hr1R : |((q / (2 : ℚ) ^ k : ℚ) : ℝ)| ≤ 1 := by exact_mod_cast hr1
  have h := sqFoldF_sound k (expSmallF_sound (FI.ofRat_sound (q / (2 : ℚ) ^ k)) hr1R)
  rw [← Real.exp_nat_mul] at h
  convert h using 2
  push_cast
  field_simp

example : Mem (Real.exp ((-(7 / 3) : ℚ) : ℝ)) (expF (-(7 / 3))).toI := expF_sound _

/-- The lower endpoint of `expF q` is never negative. -/
lemma expF_lo_nonneg (q : ℚ) : 0 ≤ (expF q).lo := by
  rw [expF_eq]
  exact sqFoldF_lo_nonneg _ (expSmallF_lo_nonneg _)

lemma pow2_cast_eq_exp (e : ℤ) : ((pow2 e : ℚ) : ℝ) = Real.exp ((e : ℝ) * Real.log 2) := by
  rw [pow2_eq, mul_comm, Real.exp_mul, Real.exp_log two_pos, Real.rpow_intCast]
  push_cast; rfl

/-- For every rational `q`, the real number `exp q` lies in the rational interval `expQ q`.
For `|q| ≤ 1` this is the fixed-point enclosure `expF q`; otherwise
`exp q = 2^e · exp (q − e·ln 2)` for the integer `e` the code chooses (the proof uses nothing about
`e`), `q − e·ln 2` enclosed via `ln2`, and `exp` monotone. -/
theorem expQ_sound (q : ℚ) : Mem (Real.exp (q : ℝ)) (expQ q) := by
  unfold expQ
  split_ifs with h h2
  · exact expF_sound q
  · -- the model's cut-off `q < -800` with bound `2^-1100`: `exp q < e^-800 < 2^-1100`
    have hq : (q : ℝ) < -800 := by exact_mod_cast h2
    have hlog : 1100 * Real.log 2 < 800 := by linarith only [Real.log_two_lt_d9]
    refine mem_of_le_of_le (by rw [Rat.cast_zero]; exact (Real.exp_pos _).le) ?_
    rw [pow2_cast_eq_exp]
    refine Real.exp_le_exp.mpr ?_
    push_cast
    linarith only [hq, hlog]
  · simp only
    generalize (q * (14427 / 10000)).floor = e
    have hr : Mem ((q : ℝ) - ((e : ℚ) : ℝ) * Real.log 2) (sub (ofRat q) (scale (e : ℚ) ln2)) :=
      sub_sound (ofRat_sound q) (scale_sound _ ln2_sound)
    generalize sub (ofRat q) (scale (e : ℚ) ln2) = r at hr
    rw [Rat.cast_intCast] at hr
    have hp : (0 : ℝ) < ((pow2 e : ℚ) : ℝ) := by rw [pow2_cast_eq_exp]; exact Real.exp_pos _
    have hpe := pow2_cast_eq_exp e
    have hq : Real.exp (q : ℝ) = Real.exp ((q : ℝ) - e * Real.log 2) * ((pow2 e : ℚ) : ℝ) := by
      rw [hpe, ← Real.exp_add]; congr 1; ring
    rw [hq]
    refine mem_of_monotoneOn (f := fun t => Real.exp t * ((pow2 e : ℚ) : ℝ))
      ((Real.exp_monotone.mul_const hp.le).monotoneOn _) hr ?_ ?_
    · show (((expF r.lo).toI.lo * pow2 e : ℚ) : ℝ) ≤ _
      rw [Rat.cast_mul]
      exact mul_le_mul_of_nonneg_right (expF_sound r.lo).1 hp.le
    · show _ ≤ (((expF r.hi).toI.hi * pow2 e : ℚ) : ℝ)
      rw [Rat.cast_mul]
      exact mul_le_mul_of_nonneg_right (expF_sound r.hi).2 hp.le

example : Mem (Real.exp ((-1000 : ℚ) : ℝ)) (expQ (-1000)) := expQ_sound _
example : Mem (Real.exp ((2 ^ 70 : ℚ) : ℝ)) (expQ (2 ^ 70)) := expQ_sound _
example : Mem (Real.exp ((3 / 2 : ℚ) : ℝ)) (expQ (3 / 2)) := expQ_sound _
example : Mem (Real.exp ((0 : ℚ) : ℝ)) (expQ 0) := expQ_sound _

/-- If the real number `x` lies in the interval `a`, then `exp x` lies in the interval `exp a`. -/
theorem exp_sound (a : I) (x : ℝ) (h : Mem x a) : Mem (Real.exp x) (exp a) :=
  mem_of_monotoneOn (Real.exp_monotone.monotoneOn _) h (expQ_sound a.lo).1 (expQ_sound a.hi).2

example : Mem (Real.exp (-3)) (exp ⟨-(2 ^ 80), 7 / 3⟩) :=
  exp_sound ⟨-(2 ^ 80), 7 / 3⟩ (-3) ⟨by norm_num, by norm_num⟩

example : Mem (Real.exp 1) (exp ⟨-5 / 2, 7 / 3⟩) :=
  exp_sound ⟨-5 / 2, 7 / 3⟩ 1 ⟨by norm_num, by norm_num⟩

end ExpSound
/-- The power enclosure is sound: for `x ∈ a` with `a` positive and `y ∈ b`, the real power
`x ^ y = exp (y · log x)` lies in `pow a b`. -/
theorem pow_sound (a b : I) (x y : ℝ) (hx : Mem x a) (hy : Mem y b) (h0 : 0 < a.lo) :
    Mem (x ^ y) (pow a b) := by
  have hl : (0 : ℝ) < (a.lo : ℝ) := by exact_mod_cast h0
  have hxpos : 0 < x := hl.trans_le hx.1
  rw [Real.rpow_def_of_pos hxpos, mul_comm]
  exact exp_sound _ _ (mul_sound hy (log_sound a x hx h0))

example : Mem ((2 : ℝ) ^ (1 / 2 : ℝ)) (pow (ofRat 2) (ofRat (1 / 2))) := by
  have h2 : Mem (2 : ℝ) (ofRat 2) := by simpa using ofRat_sound 2
  have hh : Mem (1 / 2 : ℝ) (ofRat (1 / 2)) := by simpa using ofRat_sound (1 / 2)
  exact pow_sound _ _ _ _ h2 hh (by decide)

section AtanSound
open Finset

/-- partial sum `Σ_{k<n} (-1)^k x^(2k+1)/(2k+1)` of the arctan series -/
noncomputable def atanS (n : ℕ) (x : ℝ) : ℝ :=
  ∑ k ∈ range n, (-1 : ℝ) ^ k * x ^ (2 * k + 1) / ((2 * k + 1 : ℕ) : ℝ)

lemma hasDerivAt_atanS (n : ℕ) (x : ℝ) :
    HasDerivAt (atanS n) (∑ k ∈ range n, (-(x ^ 2)) ^ k) x := by
  unfold atanS
  apply HasDerivAt.fun_sum
  intro k _
  have h := ((hasDerivAt_pow (2 * k + 1) x).const_mul ((-1 : ℝ) ^ k)).div_const
    (((2 * k + 1 : ℕ) : ℝ))
  refine h.congr_deriv ?_
  have hk : (((2 * k + 1 : ℕ) : ℝ)) ≠ 0 := by positivity
  rw [neg_pow (x ^ 2) k, ← pow_mul, Nat.add_sub_cancel]
  field_simp

lemma atanS_zero (n : ℕ) : atanS n 0 = 0 := by
  unfold atanS
  apply Finset.sum_eq_zero
  intro k _
  simp

lemma geom_neg_sq (n : ℕ) (x : ℝ) :
    1 / (1 + x ^ 2) - ∑ k ∈ range n, (-(x ^ 2)) ^ k = (-(x ^ 2)) ^ n / (1 + x ^ 2) := by
  have h1 : (-(x ^ 2)) ≠ 1 := by nlinarith [sq_nonneg x]
  have h2 : (1 + x ^ 2) ≠ 0 := by positivity
  have h3 : (-(x ^ 2) - 1) ≠ 0 := by nlinarith [sq_nonneg x]
  rw [geom_sum_eq h1]
  field_simp
  ring

/-- If `h − g` and `h + g` are monotone and `g`, `h` vanish at `0`, then `|g| ≤ |h|`. -/
lemma abs_le_abs_of_monotone {g h : ℝ → ℝ} (m1 : Monotone fun y => h y - g y)
    (m2 : Monotone fun y => h y + g y) (g0 : g 0 = 0) (h0 : h 0 = 0) (x : ℝ) : |g x| ≤ |h x| := by
  rcases le_total 0 x with hx | hx
  · have a1 := m1 hx
    have a2 := m2 hx
    simp only [g0, h0] at a1 a2
    exact (abs_le.2 ⟨by linarith only [a2], by linarith only [a1]⟩).trans (le_abs_self _)
  · have a1 := m1 hx
    have a2 := m2 hx
    simp only [g0, h0] at a1 a2
    exact (abs_le.2 ⟨by linarith only [a1], by linarith only [a2]⟩).trans (neg_le_abs _)

/-- `|arctan x − Σ_{k<n} (-1)^k x^(2k+1)/(2k+1)| ≤ |x|^(2n+1)/(2n+1)` for all real `x`. -/
lemma abs_arctan_sub_atanS_le (n : ℕ) (x : ℝ) :
    |Real.arctan x - atanS n x| ≤ |x| ^ (2 * n + 1) / ((2 * n + 1 : ℕ) : ℝ) := by
  have hN : (0 : ℝ) < ((2 * n + 1 : ℕ) : ℝ) := by positivity
  -- `g = arctan − S_n` has derivative `(−y²)^n/(1+y²)`, bounded by the derivative `y^(2n)` of `h`
  have hg : ∀ y : ℝ, HasDerivAt (fun y => Real.arctan y - atanS n y)
      ((-(y ^ 2)) ^ n / (1 + y ^ 2)) y := fun y =>
    geom_neg_sq n y ▸ (Real.hasDerivAt_arctan y).sub (hasDerivAt_atanS n y)
  have hh : ∀ y : ℝ, HasDerivAt (fun y => y ^ (2 * n + 1) / ((2 * n + 1 : ℕ) : ℝ))
      (y ^ (2 * n)) y := fun y => by
    refine ((hasDerivAt_pow (2 * n + 1) y).div_const _).congr_deriv ?_
    rw [Nat.add_sub_cancel, mul_div_cancel_left₀ _ hN.ne']
  have hbound : ∀ y : ℝ, |(-(y ^ 2)) ^ n / (1 + y ^ 2)| ≤ y ^ (2 * n) := fun y => by
    have h1 : (1 : ℝ) ≤ 1 + y ^ 2 := le_add_of_nonneg_right (sq_nonneg y)
    rw [abs_div, abs_of_pos (one_pos.trans_le h1), abs_pow, abs_neg, abs_of_nonneg (sq_nonneg y),
      ← pow_mul]
    exact div_le_self (by rw [pow_mul]; positivity) h1
  have key := abs_le_abs_of_monotone (g := fun y => Real.arctan y - atanS n y)
    (h := fun y => y ^ (2 * n + 1) / ((2 * n + 1 : ℕ) : ℝ))
    (monotone_of_deriv_nonneg (fun y => ((hh y).fun_sub (hg y)).differentiableAt) fun y => by
      rw [((hh y).fun_sub (hg y)).deriv]
      linarith only [(abs_le.mp (hbound y)).2])
    (monotone_of_deriv_nonneg (fun y => ((hh y).fun_add (hg y)).differentiableAt) fun y => by
      rw [((hh y).fun_add (hg y)).deriv]
      linarith only [(abs_le.mp (hbound y)).1])
    (by simp only [atanS_zero, Real.arctan_zero, sub_zero]) (by simp) x
  rwa [abs_div, abs_pow, abs_of_pos hN] at key

def atanSQ (n : ℕ) (z : ℚ) : ℚ :=
  ∑ k ∈ range n, (-1 : ℚ) ^ k * z ^ (2 * k + 1) / ((2 * k + 1 : ℕ) : ℚ)

lemma atanSmallN_foldl_eq (z : ℚ) (j : ℕ) :
    (List.range j).foldl (fun (x : ℚ × ℚ) k =>
      match x with
      | (s, pw) => (s + (if k % 2 == 0 then pw else -pw) / ((2 * k + 1 : ℕ) : ℚ), pw * (z * z)))
      ((0 : ℚ), z) = (atanSQ j z, z ^ (2 * j + 1)) := by
  induction j with
  | zero => simp [atanSQ]
  | succ j ih =>
    rw [List.range_succ, List.foldl_append, ih]
    simp only [List.foldl_cons, List.foldl_nil]
    refine Prod.ext ?_ ?_
    · simp only [atanSQ, Finset.sum_range_succ]
      congr 1
      rcases Nat.even_or_odd j with hj | hj
      · have : j % 2 = 0 := Nat.even_iff.mp hj
        simp [this, hj.neg_one_pow]
      · have : j % 2 = 1 := Nat.odd_iff.mp hj
        simp [this, hj.neg_one_pow]
    · simp only
      ring

lemma atanSmallN_eq (n : ℕ) (z : ℚ) :
    atanSmallN n z = mk' (atanSQ (n + 1) z - |z| ^ (2 * n + 3) / ((2 * n + 3 : ℕ) : ℚ))
      (atanSQ (n + 1) z + |z| ^ (2 * n + 3) / ((2 * n + 3 : ℕ) : ℚ)) := by
  unfold atanSmallN
  simp only
  rw [atanSmallN_foldl_eq z (n + 1)]
  simp only [ratAbs_eq, abs_pow]
  have : 2 * (n + 1) + 1 = 2 * n + 3 := by ring
  rw [this]

lemma atanSQ_cast (n : ℕ) (z : ℚ) : ((atanSQ n z : ℚ) : ℝ) = atanS n (z : ℝ) := by
  unfold atanSQ atanS
  push_cast
  rfl

/-- For every number of terms and every rational `z`, the interval `atanSmallN n z` contains the
real number `arctan z`: the remainder bound `abs_arctan_sub_atanS_le` holds for all real arguments. -/
theorem atanSmallN_sound (n : ℕ) (z : ℚ) : Mem (Real.arctan (z : ℝ)) (atanSmallN n z) := by
  rw [atanSmallN_eq]
  have h := abs_le.1 (abs_arctan_sub_atanS_le (n + 1) (z : ℝ))
  have hc : ((|z| ^ (2 * n + 3) / ((2 * n + 3 : ℕ) : ℚ) : ℚ) : ℝ) =
      |(z : ℝ)| ^ (2 * (n + 1) + 1) / ((2 * (n + 1) + 1 : ℕ) : ℝ) := by
    rw [Rat.cast_div, Rat.cast_pow, Rat.cast_abs, Rat.cast_natCast,
      show 2 * n + 3 = 2 * (n + 1) + 1 by ring]
  exact mem_mk' (by rw [Rat.cast_sub, hc, atanSQ_cast]; linarith only [h.1])
    (by rw [Rat.cast_add, hc, atanSQ_cast]; linarith only [h.2])

/-- For every rational `z`, the interval `atanSmall z` contains the real number `arctan z`. -/
theorem atanSmall_sound' (z : ℚ) : Mem (Real.arctan (z : ℝ)) (atanSmall z) :=
  atanSmallN_sound 200 z

example : Mem (Real.arctan ((3 : ℚ) : ℝ)) (atanSmall 3) := atanSmall_sound' 3

/-- `atanSmall_sound'` with the range hypothesis of the model's comment; the proof does not use
it. -/
theorem atanSmall_sound (z : ℚ) (_hz : |z| ≤ 1 / 2) : Mem (Real.arctan (z : ℝ)) (atanSmall z) :=
  atanSmall_sound' z

example : Mem (Real.arctan ((-1 / 3 : ℚ) : ℝ)) (atanSmall (-1 / 3)) :=
  atanSmall_sound (-1 / 3) (by rw [abs_le]; constructor <;> norm_num)

theorem pi_sound : Mem Real.pi pi := by
  have h : Real.pi = ((16 : ℚ) : ℝ) * Real.arctan ((1 / 5 : ℚ) : ℝ)
      - ((4 : ℚ) : ℝ) * Real.arctan ((1 / 239 : ℚ) : ℝ) := by
    have := Real.four_mul_arctan_inv_5_sub_arctan_inv_239
    push_cast
    rw [one_div, one_div]
    linarith
  rw [h]
  exact sub_sound (scale_sound 16 (atanSmall_sound' _)) (scale_sound 4 (atanSmall_sound' _))

example : ((pi.lo : ℚ) : ℝ) ≤ Real.pi ∧ Real.pi ≤ ((pi.hi : ℚ) : ℝ) := pi_sound

/-- The one kernel evaluation of the 201-term Machin series: the interval `2·pi` starts at or
above `1` (used for `sqrt2pi`); positivity of `pi.lo` follows. -/
lemma scale2pi_lo_ge : (1 : ℚ) ≤ (scale 2 pi).lo := by decide +kernel

lemma pi_lo_pos : (0 : ℚ) < pi.lo := by
  have h : (1 : ℚ) ≤ ratMin (ratMin (2 * pi.lo) (2 * pi.hi)) (ratMin (2 * pi.lo) (2 * pi.hi)) :=
    scale2pi_lo_ge.trans (rdn_le _)
  rw [ratMin_eq, ratMin_eq] at h
  linarith only [h.trans ((min_le_left _ _).trans (min_le_left _ _))]

/-- `ρ x = x / (1 + √(1 + x²))`, so that `arctan x = 2 arctan (ρ x)` -/
noncomputable def rho (x : ℝ) : ℝ := x / (1 + Real.sqrt (1 + x ^ 2))

lemma arctan_eq_two_mul_arctan_rho (x : ℝ) : Real.arctan x = 2 * Real.arctan (rho x) := by
  unfold rho
  have hpos : (0 : ℝ) < 1 + x ^ 2 := by positivity
  have hs2 : Real.sqrt (1 + x ^ 2) ^ 2 = 1 + x ^ 2 := Real.sq_sqrt hpos.le
  have hs0 : 0 ≤ Real.sqrt (1 + x ^ 2) := Real.sqrt_nonneg _
  generalize Real.sqrt (1 + x ^ 2) = s at hs2 hs0
  have hsx : |x| < s := by
    apply abs_lt_of_sq_lt_sq _ hs0
    rw [hs2]; linarith
  have hd : 0 < 1 + s := by linarith
  have h1 : -1 < x / (1 + s) := by rw [lt_div_iff₀ hd]; linarith [(abs_lt.mp hsx).1]
  have h2 : x / (1 + s) < 1 := by rw [div_lt_iff₀ hd]; linarith [(abs_lt.mp hsx).2]
  rw [Real.two_mul_arctan h1 h2]
  congr 1
  have e : 1 - (x / (1 + s)) ^ 2 = 2 / (1 + s) := by
    field_simp
    linear_combination hs2
  rw [e]
  field_simp

/-- the model's reduction step -/
def red (x : I) : I := div x (add (ofRat 1) (sqrt (add (ofRat 1) (sq x))))

lemma sq_lo_nonneg (x : I) : 0 ≤ (sq x).lo := by
  unfold sq
  split_ifs
  · exact rdn_nonneg (mul_self_nonneg _)
  · exact rdn_nonneg (mul_self_nonneg _)
  · exact rdn_nonneg le_rfl

lemma red_sound {y : ℝ} {x : I} (h : Mem y x) : Mem (rho y) (red x) := by
  unfold rho red
  have h1 : Mem (1 + y ^ 2) (add (ofRat 1) (sq x)) := by
    simpa using add_sound (ofRat_sound 1) (sq_sound h)
  have h2 := sqrt_sound' _ _ h1
  have h3 : Mem (1 + Real.sqrt (1 + y ^ 2)) (add (ofRat 1) (sqrt (add (ofRat 1) (sq x)))) := by
    simpa using add_sound (ofRat_sound 1) h2
  refine div_sound h h3 (Or.inl ?_)
  show 0 < rdn (1 + sqrtLo _)
  have := one_le_rdn (q := 1 + sqrtLo (add (ofRat 1) (sq x)).lo)
    (by linarith [sqrtLo_nonneg (add (ofRat 1) (sq x)).lo])
  linarith

lemma atanQ_eq (q : ℚ) : atanQ q =
    if |q| ≤ 1 / 2 then atanSmall q else
      scale 8 (hull (atanSmallN 40 (red (red (red (ofRat q)))).lo)
        (atanSmallN 40 (red (red (red (ofRat q)))).hi)) := by
  unfold atanQ
  simp only [ratAbs_eq]
  rfl

/-- For every rational `q`, the interval `atanQ q` contains the real number `arctan q`. -/
theorem atanQ_sound (q : ℚ) : Mem (Real.arctan (q : ℝ)) (atanQ q) := by
  rw [atanQ_eq]
  split_ifs with h
  · exact atanSmall_sound' q
  · have hm : Mem (rho (rho (rho (q : ℝ)))) (red (red (red (ofRat q)))) :=
      red_sound (red_sound (red_sound (ofRat_sound q)))
    generalize red (red (red (ofRat q))) = x3 at hm
    have he : Real.arctan (q : ℝ) = ((8 : ℚ) : ℝ) * Real.arctan (rho (rho (rho (q : ℝ)))) := by
      rw [arctan_eq_two_mul_arctan_rho (q : ℝ), arctan_eq_two_mul_arctan_rho (rho (q : ℝ)),
        arctan_eq_two_mul_arctan_rho (rho (rho (q : ℝ)))]
      push_cast; ring
    rw [he]
    apply scale_sound
    exact mem_of_monotoneOn (Real.arctan_strictMono.monotone.monotoneOn _) hm
      (hull_sound_left (atanSmallN_sound 40 x3.lo)).1
      (hull_sound_right (atanSmallN_sound 40 x3.hi)).2

example : Mem (Real.arctan ((7 : ℚ) : ℝ)) (atanQ 7) := atanQ_sound 7

end AtanSound
section NormalAnalysis
open MeasureTheory Real

/-- standard normal density -/
noncomputable def phiR (t : ℝ) : ℝ := Real.exp (-t^2/2) / Real.sqrt (2*Real.pi)
/-- standard normal CDF -/
noncomputable def Φ (x : ℝ) : ℝ := ∫ t in Set.Iic x, Real.exp (-t^2/2) / Real.sqrt (2*Real.pi)
/-- T_k(y) = y^(2k+1)/(2k+1)!!, defined by the recursion the executable code uses -/
noncomputable def phT : ℕ → ℝ → ℝ
  | 0, y => y
  | k+1, y => phT k y * y^2 / (2*(k:ℝ)+3)
/-- partial sum Σ_{k≤n} T_k(y) -/
noncomputable def phG (n : ℕ) (y : ℝ) : ℝ := ∑ k ∈ Finset.range (n+1), phT k y

lemma Φ_eq_integral (x : ℝ) : Φ x = ∫ t in Set.Iic x, phiR t := rfl

lemma sqrt_two_pi_pos : 0 < Real.sqrt (2*Real.pi) := by positivity

lemma phiR_eq (t : ℝ) : phiR t = (Real.sqrt (2*Real.pi))⁻¹ * Real.exp (-(1/2) * t^2) := by
  unfold phiR
  rw [div_eq_inv_mul]
  congr 2
  ring

lemma phiR_eq_fun : phiR = fun t => (Real.sqrt (2*Real.pi))⁻¹ * Real.exp (-(1/2) * t^2) :=
  funext phiR_eq

lemma phiR_pos (t : ℝ) : 0 < phiR t := by
  unfold phiR; positivity

lemma phiR_nonneg (t : ℝ) : 0 ≤ phiR t := (phiR_pos t).le

lemma phiR_continuous : Continuous phiR := by
  unfold phiR; fun_prop

lemma phiR_neg (t : ℝ) : phiR (-t) = phiR t := by
  unfold phiR; simp

lemma phiR_integrable : Integrable phiR := by
  rw [phiR_eq_fun]
  exact (integrable_exp_neg_mul_sq (by norm_num : (0:ℝ) < 1/2)).const_mul _

lemma phiR_integral : ∫ t, phiR t = 1 := by
  rw [phiR_eq_fun, integral_const_mul, integral_gaussian]
  have : Real.pi / (1/2) = 2 * Real.pi := by ring
  rw [this]
  exact inv_mul_cancel₀ sqrt_two_pi_pos.ne'

lemma Phi_nonneg (x : ℝ) : 0 ≤ Φ x := by
  rw [Φ_eq_integral]
  exact setIntegral_nonneg measurableSet_Iic (fun t _ => phiR_nonneg t)

lemma Phi_add_neg (x : ℝ) : Φ x + Φ (-x) = 1 := by
  have h1 : Φ (-x) = ∫ t in Set.Ioi x, phiR t := by
    rw [Φ_eq_integral]
    have := integral_comp_neg_Ioi x phiR
    rw [← this]
    simp only [phiR_neg]
  rw [h1, Φ_eq_integral, intervalIntegral.integral_Iic_add_Ioi phiR_integrable.integrableOn
    phiR_integrable.integrableOn, phiR_integral]

lemma Phi_zero : Φ 0 = 1/2 := by
  have := Phi_add_neg 0
  rw [neg_zero] at this
  linarith

lemma Phi_sub (a b : ℝ) : Φ b - Φ a = ∫ t in a..b, phiR t := by
  rw [Φ_eq_integral, Φ_eq_integral]
  exact intervalIntegral.integral_Iic_sub_Iic phiR_integrable.integrableOn
    phiR_integrable.integrableOn

lemma Phi_hasDerivAt (x : ℝ) : HasDerivAt Φ (phiR x) x := by
  have h : Φ = fun u => Φ 0 + ∫ t in (0:ℝ)..u, phiR t := by
    funext u
    rw [← Phi_sub]; ring
  rw [h]
  exact (intervalIntegral.integral_hasDerivAt_right (phiR_continuous.intervalIntegrable _ _)
    (phiR_continuous.stronglyMeasurableAtFilter _ _) phiR_continuous.continuousAt).const_add _

lemma phiR_hasDerivAt (x : ℝ) : HasDerivAt phiR (-x * phiR x) x := by
  have h : HasDerivAt (fun t : ℝ => -t^2/2) (-x) x := by
    have h0 : HasDerivAt (fun t : ℝ => -t^2/2) _ x := ((hasDerivAt_id' x).pow 2).neg.div_const 2
    refine h0.congr_deriv ?_
    simp
    ring
  have h1 : HasDerivAt (fun t => Real.exp (-t^2/2) / Real.sqrt (2*Real.pi)) _ x :=
    (h.exp).div_const (Real.sqrt (2*Real.pi))
  refine h1.congr_deriv ?_
  unfold phiR
  ring

lemma phT_zero_eq : phT 0 = fun y => y := rfl
lemma phT_succ_eq (k : ℕ) : phT (k+1) = fun y => phT k y * y^2 / (2*(k:ℝ)+3) := rfl
lemma phT_succ (k : ℕ) (y : ℝ) : phT (k+1) y = phT k y * y^2 / (2*(k:ℝ)+3) := rfl

lemma phT_succ_mul (k : ℕ) (y : ℝ) : (2 * (k : ℝ) + 3) * phT (k + 1) y = phT k y * y ^ 2 := by
  rw [phT_succ, mul_div_cancel₀ _ (by positivity)]

lemma phT_nonneg {y : ℝ} (hy : 0 ≤ y) (k : ℕ) : 0 ≤ phT k y := by
  induction k with
  | zero => exact hy
  | succ k ih =>
    rw [phT_succ]
    positivity

lemma phT_at_zero (k : ℕ) : phT k 0 = 0 := by
  cases k with
  | zero => rfl
  | succ k => rw [phT_succ]; simp

lemma phG_at_zero (n : ℕ) : phG n 0 = 0 := by
  unfold phG
  simp [phT_at_zero]

lemma phT_zero_hasDerivAt (y : ℝ) : HasDerivAt (phT 0) 1 y := by
  rw [phT_zero_eq]; exact hasDerivAt_id' y

lemma phT_succ_hasDerivAt (k : ℕ) (y : ℝ) : HasDerivAt (phT (k+1)) (y * phT k y) y := by
  induction k with
  | zero =>
    rw [phT_succ_eq]
    have h := (((phT_zero_hasDerivAt y).mul ((hasDerivAt_id' y).pow 2)).div_const (2*((0:ℕ):ℝ)+3))
    refine h.congr_deriv ?_
    simp only [phT_zero_eq, Pi.pow_apply]
    push_cast
    ring
  | succ k ih =>
    rw [phT_succ_eq (k+1)]
    have h := ((ih.mul ((hasDerivAt_id' y).pow 2)).div_const (2*((k+1:ℕ):ℝ)+3))
    refine h.congr_deriv ?_
    simp only [Pi.pow_apply]
    rw [phT_succ]
    have h1 : (2*(k:ℝ)+3) ≠ 0 := by positivity
    have h2 : (2*((k+1:ℕ):ℝ)+3) ≠ 0 := by positivity
    push_cast
    push_cast at h2
    field_simp
    ring

lemma phG_zero_eq : phG 0 = phT 0 := by
  funext y; simp [phG]

lemma phG_succ_eq (n : ℕ) : phG (n+1) = fun y => phG n y + phT (n+1) y := by
  funext y; simp [phG, Finset.sum_range_succ]

lemma phG_hasDerivAt (n : ℕ) (y : ℝ) :
    HasDerivAt (phG n) (1 + y * phG n y - y * phT n y) y := by
  induction n with
  | zero =>
    rw [phG_zero_eq]
    refine (phT_zero_hasDerivAt y).congr_deriv ?_
    ring
  | succ n ih =>
    rw [phG_succ_eq]
    refine (ih.add (phT_succ_hasDerivAt n y)).congr_deriv ?_
    ring

lemma Phi_series_lower {y : ℝ} (hy : 0 ≤ y) (n : ℕ) : phiR y * phG n y ≤ Φ y - 1/2 := by
  set L : ℝ → ℝ := fun y => Φ y - 1/2 - phiR y * phG n y with hL
  have hd : ∀ t, HasDerivAt L (phiR t * t * phT n t) t := by
    intro t
    have h := ((Phi_hasDerivAt t).sub_const (1/2)).sub
      ((phiR_hasDerivAt t).mul (phG_hasDerivAt n t))
    refine h.congr_deriv ?_
    ring
  have hmono : MonotoneOn L (Set.Ici 0) := by
    apply monotoneOn_of_deriv_nonneg (convex_Ici 0)
    · exact fun t _ => (hd t).continuousAt.continuousWithinAt
    · exact fun t _ => (hd t).differentiableAt.differentiableWithinAt
    · intro t ht
      rw [interior_Ici] at ht
      have ht' : 0 < t := ht
      rw [(hd t).deriv]
      have := phT_nonneg ht'.le n
      have := phiR_nonneg t
      positivity
  have h0 : L 0 = 0 := by
    simp only [hL, phG_at_zero, Phi_zero]; ring
  have := hmono (Set.self_mem_Ici) hy hy
  rw [h0] at this
  simp only [hL] at this
  linarith

lemma Phi_series_upper {y : ℝ} (hy : 0 ≤ y) (n : ℕ) (h : y^2 < 2*(n:ℝ)+3) :
    Φ y - 1/2 ≤ phiR y * (phG n y + phT n y * (y^2/(2*(n:ℝ)+3)) / (1 - y^2/(2*(n:ℝ)+3))) := by
  have hD : 0 < 2*(n:ℝ)+3 - y^2 := by linarith
  have hN : 0 < 2*(n:ℝ)+3 := by positivity
  obtain ⟨C, hC⟩ : ∃ C : ℝ, C * (2*(n:ℝ)+3 - y^2) = 1 := ⟨_, one_div_mul_cancel hD.ne'⟩
  have hCpos : 0 < C := pos_of_mul_pos_left (hC ▸ one_pos) hD.le
  -- the difference of the two sides, with `t` in place of `y`, vanishes at `0` and is
  -- nondecreasing on `[0, y]`
  have hd : ∀ t, HasDerivAt
      (fun t => phiR t * (phG n t + C * ((2*(n:ℝ)+3) * phT (n+1) t)) - (Φ t - 1/2))
      (phiR t * t * phT n t * (C * (2*(n:ℝ)+3 - t^2) - 1)) t := by
    intro t
    have h := ((phiR_hasDerivAt t).mul ((phG_hasDerivAt n t).add
      (((phT_succ_hasDerivAt n t).const_mul (2*(n:ℝ)+3)).const_mul C))).sub
      ((Phi_hasDerivAt t).sub_const (1/2))
    refine h.congr_deriv ?_
    simp only [Pi.add_apply]
    rw [phT_succ_mul]
    ring
  have hmono : MonotoneOn
      (fun t => phiR t * (phG n t + C * ((2*(n:ℝ)+3) * phT (n+1) t)) - (Φ t - 1/2))
      (Set.Icc 0 y) := by
    apply monotoneOn_of_deriv_nonneg (convex_Icc 0 y)
    · exact fun t _ => (hd t).continuousAt.continuousWithinAt
    · exact fun t _ => (hd t).differentiableAt.differentiableWithinAt
    · intro t ht
      rw [interior_Icc] at ht
      rw [(hd t).deriv]
      have h4 : 0 ≤ C * (2*(n:ℝ)+3 - t^2) - 1 := by
        rw [← hC, ← mul_sub]
        exact mul_nonneg hCpos.le
          (sub_nonneg.2 (sub_le_sub_left (pow_le_pow_left₀ ht.1.le ht.2.le 2) _))
      exact mul_nonneg (mul_nonneg (mul_nonneg (phiR_nonneg t) ht.1.le) (phT_nonneg ht.1.le n)) h4
  have := hmono (Set.left_mem_Icc.mpr hy) (Set.right_mem_Icc.mpr hy) hy
  simp only [phG_at_zero, phT_at_zero, Phi_zero] at this
  have e : phT n y * (y^2/(2*(n:ℝ)+3)) / (1 - y^2/(2*(n:ℝ)+3))
      = C * ((2*(n:ℝ)+3) * phT (n+1) y) := by
    rw [phT_succ_mul, eq_div_of_mul_eq hD.ne' hC, one_sub_div hN.ne']
    field_simp
  rw [e]
  linarith

lemma phiR_tendsto_atBot : Filter.Tendsto phiR Filter.atBot (nhds 0) := by
  have h1 : Filter.Tendsto (fun t : ℝ => t * t) Filter.atBot Filter.atTop :=
    Filter.tendsto_id.atBot_mul_atBot₀ Filter.tendsto_id
  have h2 : Filter.Tendsto (fun t : ℝ => -(1/2) * (t * t)) Filter.atBot Filter.atBot :=
    h1.const_mul_atTop_of_neg (by norm_num)
  have h3 := (Real.tendsto_exp_atBot.comp h2).const_mul (Real.sqrt (2*Real.pi))⁻¹
  rw [mul_zero] at h3
  refine h3.congr ?_
  intro t
  rw [phiR_eq]
  simp only [Function.comp]
  congr 2
  ring

lemma integrableOn_mul_phiR (x : ℝ) : IntegrableOn (fun t => t * phiR t) (Set.Iic x) := by
  have : (fun t => t * phiR t)
      = fun t => (Real.sqrt (2*Real.pi))⁻¹ * (t * Real.exp (-(1/2) * t^2)) := by
    funext t; rw [phiR_eq]; ring
  rw [this]
  exact ((integrable_mul_exp_neg_mul_sq (by norm_num : (0:ℝ) < 1/2)).const_mul _).integrableOn

lemma integral_Iic_mul_phiR (x : ℝ) : ∫ t in Set.Iic x, t * phiR t = - phiR x := by
  have hint := integrableOn_mul_phiR x
  have hderiv : ∀ t ∈ Set.Iic x, HasDerivAt (fun t => - phiR t) (t * phiR t) t := by
    intro t _
    refine (phiR_hasDerivAt t).neg.congr_deriv ?_
    ring
  have ht : Filter.Tendsto (fun t => - phiR t) Filter.atBot (nhds 0) := by
    simpa using phiR_tendsto_atBot.neg
  have := integral_Iic_of_hasDerivAt_of_tendsto' hderiv hint ht
  rw [this]; ring

lemma Phi_mills {x : ℝ} (hx : x < 0) : Φ x ≤ phiR x / (-x) := by
  have hint := integrableOn_mul_phiR x
  have hle : ∫ t in Set.Iic x, phiR t ≤ ∫ t in Set.Iic x, x⁻¹ * (t * phiR t) := by
    apply setIntegral_mono_on phiR_integrable.integrableOn (hint.const_mul _) measurableSet_Iic
    intro t ht
    have ht' : t ≤ x := ht
    have : 1 ≤ x⁻¹ * t := by
      have : x⁻¹ * t = t / x := by ring
      rw [this, le_div_iff_of_neg hx]
      linarith
    calc phiR t = 1 * phiR t := by ring
      _ ≤ (x⁻¹ * t) * phiR t := mul_le_mul_of_nonneg_right this (phiR_nonneg t)
      _ = x⁻¹ * (t * phiR t) := by ring
  rw [Φ_eq_integral]
  refine hle.trans (le_of_eq ?_)
  rw [integral_const_mul, integral_Iic_mul_phiR]
  have : x ≠ 0 := hx.ne
  field_simp

end NormalAnalysis
section TailAnalysis
open MeasureTheory

/-- (2j-1)!! as a real number, by recursion -/
noncomputable def dfR : ℕ → ℝ
  | 0 => 1
  | j+1 => dfR j * (2*(j:ℝ)+1)
/-- v_j(a) = (2j-1)!!/a^(2j) -/
noncomputable def tailV (a : ℝ) (j : ℕ) : ℝ := dfR j / a^(2*j)
/-- S_n(a) = Σ_{j≤n} (-1)^j v_j(a) -/
noncomputable def tailS (a : ℝ) (n : ℕ) : ℝ := ∑ j ∈ Finset.range (n+1), (-1:ℝ)^j * tailV a j

lemma dfR_zero : dfR 0 = 1 := rfl
lemma dfR_succ (j : ℕ) : dfR (j+1) = dfR j * (2*(j:ℝ)+1) := rfl

lemma dfR_pos (j : ℕ) : 0 < dfR j := by
  induction j with
  | zero => rw [dfR_zero]; exact one_pos
  | succ j ih => rw [dfR_succ]; positivity

lemma tailV_zero (a : ℝ) : tailV a 0 = 1 := by
  simp [tailV, dfR_zero]

lemma tailV_succ {a : ℝ} (ha : a ≠ 0) (j : ℕ) :
    tailV a (j+1) = tailV a j * (2*(j:ℝ)+1) / a^2 := by
  unfold tailV
  rw [dfR_succ]
  have e : a^(2*(j+1)) = a^(2*j) * a^2 := by ring
  rw [e]
  field_simp

lemma tailV_pos {a : ℝ} (ha : 0 < a) (j : ℕ) : 0 < tailV a j := by
  unfold tailV
  have := dfR_pos j
  positivity

lemma tailS_zero (a : ℝ) : tailS a 0 = 1 := by
  simp [tailS, tailV_zero]

lemma tailS_succ (a : ℝ) (n : ℕ) :
    tailS a (n+1) = tailS a n + (-1:ℝ)^(n+1) * tailV a (n+1) := by
  unfold tailS
  rw [Finset.sum_range_succ]

/-- the `x`-scaled partial sums `S_n(x)/x` written with explicit odd powers -/
noncomputable def tailU (n : ℕ) (x : ℝ) : ℝ :=
  ∑ j ∈ Finset.range (n+1), (-1:ℝ)^j * (dfR j / x^(2*j+1))

lemma tailU_zero_eq : tailU 0 = fun x => (-1:ℝ)^0 * (dfR 0 / x^(2*0+1)) := by
  funext x; simp [tailU]

lemma tailU_succ_eq (n : ℕ) :
    tailU (n+1) = fun x => tailU n x + (-1:ℝ)^(n+1) * (dfR (n+1) / x^(2*(n+1)+1)) := by
  funext x; simp only [tailU]; rw [Finset.sum_range_succ]

lemma tailU_eq {x : ℝ} (hx : x ≠ 0) (n : ℕ) : tailU n x = tailS x n / x := by
  unfold tailU tailS
  rw [Finset.sum_div]
  refine Finset.sum_congr rfl ?_
  intro j _
  unfold tailV
  rw [pow_succ]
  field_simp

lemma tail_term_hasDerivAt {x : ℝ} (hx : x ≠ 0) (j : ℕ) :
    HasDerivAt (fun x => phiR x * (dfR j / x^(2*j+1)))
      (-phiR x * (tailV x j + tailV x (j+1))) x := by
  have hp : x^(2*j+1) ≠ 0 := pow_ne_zero _ hx
  have h1 : HasDerivAt (fun x : ℝ => dfR j / x^(2*j+1))
      ((0 * x^(2*j+1) - dfR j * (((2*j+1 : ℕ) : ℝ) * x^(2*j+1-1))) / (x^(2*j+1))^2) x :=
    (hasDerivAt_const x (dfR j)).div (hasDerivAt_pow (2*j+1) x) hp
  have h := (phiR_hasDerivAt x).mul h1
  refine h.congr_deriv ?_
  unfold tailV
  rw [dfR_succ]
  have e1 : 2*j+1-1 = 2*j := by omega
  have e2 : x^(2*(j+1)) = x^(2*j) * x^2 := by ring
  have e3 : x^(2*j+1) = x^(2*j) * x := by ring
  rw [e1, e2, e3]
  push_cast
  have hq : x^(2*j) ≠ 0 := pow_ne_zero _ hx
  field_simp
  ring

lemma phiR_mul_tailU_hasDerivAt {x : ℝ} (hx : x ≠ 0) (n : ℕ) :
    HasDerivAt (fun x => phiR x * tailU n x)
      (-phiR x * (1 + (-1:ℝ)^n * tailV x (n+1))) x := by
  induction n with
  | zero =>
    rw [tailU_zero_eq]
    have h := tail_term_hasDerivAt hx 0
    have e : (fun x => phiR x * ((-1:ℝ)^0 * (dfR 0 / x^(2*0+1))))
        = fun x => phiR x * (dfR 0 / x^(2*0+1)) := by
      funext y; ring
    rw [e]
    refine h.congr_deriv ?_
    rw [tailV_zero]; ring
  | succ n ih =>
    rw [tailU_succ_eq]
    have h := ih.add ((tail_term_hasDerivAt hx (n+1)).const_mul ((-1:ℝ)^(n+1)))
    have e : (fun x => phiR x * (tailU n x + (-1:ℝ)^(n+1) * (dfR (n+1) / x^(2*(n+1)+1))))
        = (fun x => phiR x * tailU n x) +
          (fun x => (-1:ℝ)^(n+1) * (phiR x * (dfR (n+1) / x^(2*(n+1)+1)))) := by
      funext y; simp only [Pi.add_apply]; ring
    rw [e]
    refine h.congr_deriv ?_
    ring

lemma Phi_neg_hasDerivAt (x : ℝ) : HasDerivAt (fun x => Φ (-x)) (-phiR x) x := by
  have h := (Phi_hasDerivAt (-x)).scomp x (hasDerivAt_neg x)
  have e : (Φ ∘ fun x : ℝ => -x) = fun x => Φ (-x) := rfl
  rw [e] at h
  refine h.congr_deriv ?_
  rw [phiR_neg]; simp

lemma phiR_tendsto_atTop : Filter.Tendsto phiR Filter.atTop (nhds 0) := by
  have h := phiR_tendsto_atBot.comp Filter.tendsto_neg_atTop_atBot
  refine h.congr ?_
  intro t
  simp [Function.comp, phiR_neg]

lemma tailU_tendsto (n : ℕ) : Filter.Tendsto (tailU n) Filter.atTop (nhds 0) := by
  have h : Filter.Tendsto (fun x : ℝ => ∑ j ∈ Finset.range (n+1), (-1:ℝ)^j * (dfR j / x^(2*j+1)))
      Filter.atTop (nhds (∑ j ∈ Finset.range (n+1), (-1:ℝ)^j * 0)) := by
    apply tendsto_finsetSum
    intro j _
    apply Filter.Tendsto.const_mul
    exact tendsto_const_nhds.div_atTop (Filter.tendsto_pow_atTop (by omega))
  have e : tailU n = fun x : ℝ => ∑ j ∈ Finset.range (n+1), (-1:ℝ)^j * (dfR j / x^(2*j+1)) := rfl
  rw [e]
  simpa using h

lemma Phi_neg_tendsto : Filter.Tendsto (fun x => Φ (-x)) Filter.atTop (nhds 0) := by
  have hup : Filter.Tendsto (fun x : ℝ => phiR x / x) Filter.atTop (nhds 0) :=
    phiR_tendsto_atTop.div_atTop Filter.tendsto_id
  refine tendsto_of_tendsto_of_tendsto_of_le_of_le' tendsto_const_nhds hup ?_ ?_
  · exact Filter.Eventually.of_forall fun x => Phi_nonneg (-x)
  · filter_upwards [Filter.eventually_gt_atTop (0:ℝ)] with x hx
    have := Phi_mills (x := -x) (by linarith)
    rwa [phiR_neg, neg_neg] at this

lemma tail_error_tendsto (n : ℕ) :
    Filter.Tendsto (fun x => Φ (-x) - phiR x * tailU n x) Filter.atTop (nhds 0) := by
  have h := Phi_neg_tendsto.sub (phiR_tendsto_atTop.mul (tailU_tendsto n))
  simpa using h

lemma tail_error_hasDerivAt {x : ℝ} (hx : x ≠ 0) (n : ℕ) :
    HasDerivAt (fun x => Φ (-x) - phiR x * tailU n x)
      (phiR x * ((-1:ℝ)^n * tailV x (n+1))) x := by
  refine ((Phi_neg_hasDerivAt x).sub (phiR_mul_tailU_hasDerivAt hx n)).congr_deriv ?_
  ring

/-- The partial sums of the asymptotic series envelope the tail mass: the error
`Φ(−a) − φ(a)/a·S_n(a)` has the sign of the first omitted term, `(−1)^(n+1)`.  (Times `(−1)^n` it is
nondecreasing in `a` and tends to `0`.) -/
lemma tail_envelope {a : ℝ} (ha : 0 < a) (n : ℕ) :
    (-1 : ℝ) ^ n * (Φ (-a) - phiR a / a * tailS a n) ≤ 0 := by
  have hd : ∀ x, 0 < x → HasDerivAt (fun x => (-1 : ℝ) ^ n * (Φ (-x) - phiR x * tailU n x))
      (phiR x * tailV x (n + 1)) x := by
    intro x hx
    refine ((tail_error_hasDerivAt hx.ne' n).const_mul _).congr_deriv ?_
    have h1 : (-1 : ℝ) ^ n * (-1) ^ n = 1 := by rw [← mul_pow]; norm_num
    linear_combination (phiR x * tailV x (n + 1)) * h1
  have hmono : MonotoneOn (fun x => (-1 : ℝ) ^ n * (Φ (-x) - phiR x * tailU n x)) (Set.Ici a) := by
    apply monotoneOn_of_deriv_nonneg (convex_Ici a)
    · exact fun t ht => (hd t (ha.trans_le ht)).continuousAt.continuousWithinAt
    · intro t ht
      rw [interior_Ici] at ht
      exact (hd t (ha.trans ht)).differentiableAt.differentiableWithinAt
    · intro t ht
      rw [interior_Ici] at ht
      rw [(hd t (ha.trans ht)).deriv]
      exact mul_nonneg (phiR_nonneg t) (tailV_pos (ha.trans ht) _).le
  have hle := ge_of_tendsto ((tail_error_tendsto n).const_mul ((-1 : ℝ) ^ n))
    (by filter_upwards [Filter.eventually_ge_atTop a] with y hy
        exact hmono Set.self_mem_Ici hy hy)
  rw [mul_zero] at hle
  beta_reduce at hle
  rwa [tailU_eq ha.ne', mul_div_assoc', ← div_mul_eq_mul_div] at hle

lemma tail_envelope_even {a : ℝ} (ha : 0 < a) {n : ℕ} (hn : Even n) :
    Φ (-a) ≤ phiR a / a * tailS a n := by
  have := tail_envelope ha n
  rw [hn.neg_one_pow, one_mul] at this
  linarith

lemma tail_envelope_odd {a : ℝ} (ha : 0 < a) {n : ℕ} (hn : Odd n) :
    phiR a / a * tailS a n ≤ Φ (-a) := by
  have := tail_envelope ha n
  rw [hn.neg_one_pow] at this
  linarith

end TailAnalysis
/-- One step of the error recursion: with `a = k+1`, `d = t k − T k`, `T' = T k · ρ`. -/
lemma round_error_step {a e d T ρ : ℝ} (he : 0 ≤ e) (hρ : 0 ≤ ρ) (hd : d ≤ a * e * (1 + T))
    (hkey : a * ρ ≤ a + T * ρ) : d * ρ + e ≤ (a + 1) * e * (1 + T * ρ) := by
  have h1 := mul_le_mul_of_nonneg_right hd hρ
  have h2 := mul_le_mul_of_nonneg_left hkey he
  -- `a·e·(1+T)·ρ + e = e·(a·ρ) + a·e·T·ρ + e` and `e·(a + T·ρ) + a·e·T·ρ + e = (a+1)·e·(1 + T·ρ)`
  linarith only [h1, h2]

section RoundedTerms
/- `T k` are the exact terms `|z|^(2k+1)/(2k+1)!!`; `t k` are computed terms: rounded up by at most
`e` at every step (including the very first one). -/
variable (z : ℚ) (T : ℕ → ℝ) (hT0 : T 0 = |(z : ℝ)|)
  (hTs : ∀ k : ℕ, T (k + 1) = T k * (z : ℝ) ^ 2 / (2 * (k : ℝ) + 3))
  (e : ℝ) (he : 0 ≤ e) (t : ℕ → ℝ) (ht0 : T 0 ≤ t 0 ∧ t 0 ≤ T 0 + e)
  (hts : ∀ k : ℕ, t k * ((z : ℝ) ^ 2 / (2 * (k : ℝ) + 3)) ≤ t (k + 1) ∧
    t (k + 1) ≤ t k * ((z : ℝ) ^ 2 / (2 * (k : ℝ) + 3)) + e)

include hT0 hTs in
lemma term_nonneg (k : ℕ) : 0 ≤ T k := by
  induction k with
  | zero => rw [hT0]; exact abs_nonneg _
  | succ k ih => rw [hTs]; positivity

include hTs ht0 hts in
lemma term_le_computed (k : ℕ) : T k ≤ t k := by
  induction k with
  | zero => exact ht0.1
  | succ k ih =>
    refine le_trans ?_ (hts k).1
    rw [hTs, mul_div_assoc]
    have h3 : (0 : ℝ) ≤ (z : ℝ) ^ 2 / (2 * (k : ℝ) + 3) := by positivity
    exact mul_le_mul_of_nonneg_right ih h3

include hT0 hTs in
/-- While the ratios `z²/(2j+3)` stay above `ρ ≥ 1` (so `|z| ≥ 1`), `T` grows at least like `ρ^j`. -/
lemma pow_le_term {ρ : ℝ} (hρ : 1 ≤ ρ) (n : ℕ) (h : ρ * (2 * (n : ℝ) + 1) ≤ (z : ℝ) ^ 2) :
    ρ ^ n ≤ T n := by
  induction n with
  | zero =>
    rw [hT0, pow_zero, ← abs_one, ← sq_le_sq]
    push_cast at h
    linarith only [h, hρ]
  | succ n ih =>
    have h3 : (0 : ℝ) < 2 * (n : ℝ) + 3 := by positivity
    push_cast at h
    rw [hTs, pow_succ, mul_div_assoc]
    have hn : ρ * (2 * (n : ℝ) + 1) ≤ (z : ℝ) ^ 2 :=
      (mul_le_mul_of_nonneg_left (by linarith only) (zero_le_one.trans hρ)).trans h
    exact mul_le_mul (ih hn) ((le_div_iff₀ h3).2 (by linarith only [h])) (zero_le_one.trans hρ)
      (term_nonneg z T hT0 hTs n)

include hT0 hTs in
lemma succ_mul_ratio_le (k : ℕ) :
    ((k : ℝ) + 1) * ((z : ℝ) ^ 2 / (2 * (k : ℝ) + 3)) ≤ (k + 1) + T (k + 1) := by
  have hT := term_nonneg z T hT0 hTs (k + 1)
  have h3 : (0 : ℝ) < 2 * (k : ℝ) + 3 := by positivity
  generalize hρ : (z : ℝ) ^ 2 / (2 * (k : ℝ) + 3) = ρ
  rcases le_or_gt ρ 1 with h1 | h1
  · exact (mul_le_of_le_one_right (by positivity) h1).trans (le_add_of_nonneg_right hT)
  · -- Bernoulli: `1 + (k+1)(ρ-1) ≤ ρ^(k+1) ≤ T (k+1)`
    have hb := one_add_mul_le_pow (by linarith : (-2 : ℝ) ≤ ρ - 1) (k + 1)
    have hc := pow_le_term z T hT0 hTs h1.le (k + 1) (by
      rw [← hρ, div_mul_eq_mul_div, div_le_iff₀ h3]; exact le_of_eq (by push_cast; ring))
    rw [add_sub_cancel] at hb
    push_cast at hb
    linarith

include hT0 hTs he ht0 hts in
lemma computed_sub_term_le (k : ℕ) : t k - T k ≤ ((k : ℝ) + 1) * e * (1 + T k) := by
  induction k with
  | zero =>
    have := term_nonneg z T hT0 hTs 0
    rw [Nat.cast_zero, zero_add, one_mul]
    linarith [ht0.2, mul_nonneg he this]
  | succ k ih =>
    have hρ0 : 0 ≤ (z : ℝ) ^ 2 / (2 * (k : ℝ) + 3) := by positivity
    have hkey := succ_mul_ratio_le z T hT0 hTs k
    rw [hTs, mul_div_assoc] at hkey ⊢
    rw [Nat.cast_succ]
    refine le_trans ?_ (round_error_step he hρ0 ih hkey)
    linarith [(hts k).2]

include hTs ht0 hts in
lemma sum_term_le_sum_computed (n : ℕ) : ∑ k ∈ Finset.range n, T k ≤ ∑ k ∈ Finset.range n, t k :=
  Finset.sum_le_sum fun k _ => term_le_computed z T hTs e t ht0 hts k

include hT0 hTs he ht0 hts in
lemma sum_computed_sub_sum_term_le (n : ℕ) :
    ∑ k ∈ Finset.range (n + 1), t k - ∑ k ∈ Finset.range (n + 1), T k ≤
      ((n : ℝ) + 1) * e * (((n : ℝ) + 1) + ∑ k ∈ Finset.range (n + 1), T k) := by
  rw [← Finset.sum_sub_distrib]
  calc ∑ k ∈ Finset.range (n + 1), (t k - T k)
      ≤ ∑ k ∈ Finset.range (n + 1), (((n : ℝ) + 1) * e * (1 + T k)) := by
        apply Finset.sum_le_sum
        intro k hk
        refine (computed_sub_term_le z T hT0 hTs e he t ht0 hts k).trans ?_
        have hkn : (k : ℝ) ≤ n := by
          exact_mod_cast Nat.lt_succ_iff.mp (Finset.mem_range.mp hk)
        have := term_nonneg z T hT0 hTs k
        gcongr
    _ = ((n : ℝ) + 1) * e * (((n : ℝ) + 1) + ∑ k ∈ Finset.range (n + 1), T k) := by
        rw [← Finset.mul_sum, Finset.sum_add_distrib]
        simp

end RoundedTerms
/-- the sequence of scaled, rounded-up terms computed by `phiLoop` -/
def tn (zn zd t0 : ℕ) : ℕ → ℕ
  | 0 => t0
  | k + 1 => (tn zn zd t0 k * zn + zd * (2 * k + 3) - 1) / (zd * (2 * k + 3))

/-- the running sum in `phiLoop` -/
def sn (zn zd t0 : ℕ) (k : ℕ) : ℕ := ∑ i ∈ Finset.range (k + 1), tn zn zd t0 i

lemma phiLoop_spec (zn zd t0 : ℕ) (f k : ℕ) :
    ∃ K, k ≤ K ∧ K ≤ k + f ∧
      phiLoop zn zd f k (sn zn zd t0 k) (tn zn zd t0 k) = (sn zn zd t0 K, tn zn zd t0 K, K) := by
  induction f generalizing k with
  | zero => exact ⟨k, le_rfl, le_rfl, rfl⟩
  | succ f ih =>
    unfold phiLoop
    split_ifs with h
    · exact ⟨k, le_rfl, by omega, rfl⟩
    · obtain ⟨K, h1, h2, h3⟩ := ih (k + 1)
      refine ⟨K, by omega, by omega, ?_⟩
      rw [← h3]
      have : sn zn zd t0 (k + 1) = sn zn zd t0 k + tn zn zd t0 (k + 1) := by
        unfold sn; rw [Finset.sum_range_succ _ (k + 1)]
      rw [this]
      rfl

lemma ceilDiv_bounds (a d : ℕ) (hd : 0 < d) :
    a ≤ (a + d - 1) / d * d ∧ (a + d - 1) / d * d < a + d := by
  have h1 := Nat.div_add_mod (a + d - 1) d
  have h2 := Nat.mod_lt (a + d - 1) hd
  rw [mul_comm] at h1
  generalize (a + d - 1) / d * d = p at h1 ⊢
  omega

/-- rounded-up division of naturals, over `ℝ` -/
lemma ceilDiv_boundsR (a d : ℕ) (hd : 0 < d) :
    (a : ℝ) / d ≤ ((a + d - 1) / d : ℕ) ∧ (((a + d - 1) / d : ℕ) : ℝ) ≤ (a : ℝ) / d + 1 := by
  obtain ⟨h1, h2⟩ := ceilDiv_bounds a d hd
  have hdR : (0 : ℝ) < d := Nat.cast_pos.2 hd
  rw [div_le_iff₀ hdR, ← sub_le_iff_le_add, le_div_iff₀ hdR, sub_mul, one_mul, sub_le_iff_le_add]
  exact ⟨by exact_mod_cast h1, by exact_mod_cast h2.le⟩

lemma tn_succ_bounds (zn zd t0 : ℕ) (hzd : 0 < zd) (k : ℕ) :
    (tn zn zd t0 k : ℝ) * ((zn : ℝ) / (zd * (2 * (k : ℝ) + 3))) ≤ (tn zn zd t0 (k + 1) : ℝ) ∧
      (tn zn zd t0 (k + 1) : ℝ) ≤ (tn zn zd t0 k : ℝ) * ((zn : ℝ) / (zd * (2 * (k : ℝ) + 3))) + 1 := by
  have h := ceilDiv_boundsR (tn zn zd t0 k * zn) (zd * (2 * k + 3)) (by positivity)
  push_cast at h
  rwa [mul_div_assoc] at h

lemma SR_eq_pow : FI.SR = 2 ^ 128 := by
  unfold FI.SR scaleN prec; push_cast; norm_num

/-- `rup` overshoots by at most one grid unit. -/
lemma rup_leR (q : ℚ) : ((rup q : ℚ) : ℝ) ≤ (q : ℝ) + 1 / FI.SR := by
  have h : ((rup q : ℚ) : ℝ) ≤ ((q + 1 / (scaleN : ℚ) : ℚ) : ℝ) := by
    exact_mod_cast (rup_lt_add q).le
  rwa [Rat.cast_add, Rat.cast_div, Rat.cast_one] at h

/-- One step of a term recurrence `u ↦ u·r` computed with upward rounding by at most `e`: as long
as the computed terms decrease the ratio `r` is at most 1, so the error grows by at most `e`. -/
lemma tail_term_step {n e r u c c' : ℝ} (hr : 0 ≤ r) (hu : 0 < u)
    (hc1 : u ≤ c) (hc2 : c ≤ u + n * e) (hl1 : c * r ≤ c') (hl2 : c' ≤ c * r + e) (hlt : c' < c) :
    u * r ≤ c' ∧ c' ≤ u * r + (n + 1) * e := by
  have hr1 : r ≤ 1 := by
    by_contra h
    have := mul_lt_mul_of_pos_left (not_le.mp h) (hu.trans_le hc1)
    linarith only [this, hl1, hlt]
  have h1 : (c - u) * r ≤ c - u := mul_le_of_le_one_right (sub_nonneg.2 hc1) hr1
  exact ⟨(mul_le_mul_of_nonneg_right hc1 hr).trans hl1, by linarith only [h1, hl2, hc2]⟩

lemma tail_sum_step {n e s S c v : ℝ} (hn : 0 ≤ n) (he : 0 ≤ e) (hd : |s - S| ≤ n ^ 2 * e)
    (hx : |c - v| ≤ (n + 1) * e) :
    |s + c - (S + v)| ≤ (n + 1) ^ 2 * e ∧ |s - c - (S - v)| ≤ (n + 1) ^ 2 * e := by
  have hb : n ^ 2 * e + (n + 1) * e ≤ (n + 1) ^ 2 * e := by linarith only [mul_nonneg hn he]
  rw [add_sub_add_comm, sub_sub_sub_comm]
  exact ⟨(abs_add_le _ _).trans ((add_le_add hd hx).trans hb),
    (abs_sub _ _).trans ((add_le_add hd hx).trans hb)⟩

section TailLoop
/- `v j` are the exact terms `(2j-1)!!/a^(2j)`, `S n` the exact alternating partial sums and `R`
the enveloped value.  The loop computes the terms rounded up (`rup`, by at most `e`) at each step. -/
variable (a2 : ℚ) (ha2 : 0 < a2) (v S : ℕ → ℝ) (R : ℝ)
  (hv0 : v 0 = 1) (hvs : ∀ j : ℕ, v (j + 1) = v j * (2 * (j : ℝ) + 1) / (a2 : ℝ))
  (hSs : ∀ n : ℕ, S (n + 1) = S n + (-1 : ℝ) ^ (n + 1) * v (n + 1))
  (henvE : ∀ n : ℕ, Even n → R ≤ S n) (henvO : ∀ n : ℕ, Odd n → S n ≤ R)
  (e : ℝ) (he : 0 ≤ e) (hrup : ∀ q : ℚ, ((rup q : ℚ) : ℝ) ≤ (q : ℝ) + e)

include ha2 hv0 hvs in
lemma tailv_pos (j : ℕ) : 0 < v j := by
  have ha : (0 : ℝ) < (a2 : ℝ) := by exact_mod_cast ha2
  induction j with
  | zero => rw [hv0]; exact one_pos
  | succ j ih => rw [hvs]; positivity

include ha2 hv0 hvs hSs henvE henvO he hrup in
/-- Loop invariant: if on entry (next index `i+1`, at most `N` in all) the previous term `c` and
the partial sum `s` are within `i·e`, `i²·e` of the exact `v i`, `S i`, and `lo`/`hi` bracket `R`
up to `N²·e`, then so does the pair returned by the loop. -/
lemma phiTailLoop_inv (N f : ℕ) : ∀ (i : ℕ) (s c lo hi : ℚ), i + f ≤ N →
    v i ≤ (c : ℝ) → (c : ℝ) ≤ v i + (i : ℝ) * e → |(s : ℝ) - S i| ≤ (i : ℝ) ^ 2 * e →
    (lo : ℝ) - (N : ℝ) ^ 2 * e ≤ R → R ≤ (hi : ℝ) + (N : ℝ) ^ 2 * e →
    ((phiTailLoop a2 f (i + 1) s c lo hi).1 : ℝ) - (N : ℝ) ^ 2 * e ≤ R ∧
      R ≤ ((phiTailLoop a2 f (i + 1) s c lo hi).2 : ℝ) + (N : ℝ) ^ 2 * e := by
  induction f with
  | zero =>
    intro i s c lo hi _ _ _ _ hlo hhi
    exact ⟨hlo, hhi⟩
  | succ f ih =>
    intro i s c lo hi hfuel hc1 hc2 hs hlo hhi
    unfold phiTailLoop
    simp only
    generalize hq : c * ((2 * (i + 1) - 1 : ℕ) : ℚ) / a2 = q
    rcases le_or_gt c (rup q) with hstop | hlt
    · rw [if_pos hstop]
      exact ⟨hlo, hhi⟩
    rw [if_neg (not_le.2 hlt)]
    have hqR : (q : ℝ) = c * ((2 * (i : ℝ) + 1) / a2) := by
      rw [← hq, show 2 * (i + 1) - 1 = 2 * i + 1 by omega]
      push_cast
      ring
    obtain ⟨hc1', hc2'⟩ : v (i + 1) ≤ (rup q : ℝ) ∧
        (rup q : ℝ) ≤ v (i + 1) + ((i + 1 : ℕ) : ℝ) * e := by
      rw [hvs, mul_div_assoc, Nat.cast_succ]
      exact tail_term_step (div_nonneg (by positivity) (Rat.cast_nonneg.2 ha2.le))
        (tailv_pos a2 ha2 v hv0 hvs i) hc1 hc2 (hqR ▸ le_rupR q) (hqR ▸ hrup q)
        (Rat.cast_lt.2 hlt)
    have hx : |(rup q : ℝ) - v (i + 1)| ≤ ((i : ℝ) + 1) * e := by
      rw [abs_of_nonneg (sub_nonneg.2 hc1'), sub_le_iff_le_add', ← Nat.cast_succ]
      exact hc2'
    have hN : ((i + 1 : ℕ) : ℝ) ^ 2 * e ≤ (N : ℝ) ^ 2 * e := by
      have : ((i + 1 : ℕ) : ℝ) ≤ N := Nat.cast_le.2 (by omega)
      gcongr
    split_ifs with hodd
    · have hoddN : Odd (i + 1) := Nat.odd_iff.2 (by simpa using hodd)
      have hs' : |((s - rup q : ℚ) : ℝ) - S (i + 1)| ≤ ((i + 1 : ℕ) : ℝ) ^ 2 * e := by
        rw [hSs, hoddN.neg_one_pow, neg_one_mul, ← sub_eq_add_neg, Rat.cast_sub, Nat.cast_succ]
        exact (tail_sum_step (Nat.cast_nonneg i) he hs hx).2
      refine ih (i + 1) _ _ _ hi (by omega) hc1' hc2' hs' ?_ hhi
      linarith only [(abs_le.1 hs').2, henvO _ hoddN, hN]
    · have hevenN : Even (i + 1) := by
        rw [← Nat.not_odd_iff_even, Nat.odd_iff]
        simpa using hodd
      have hs' : |((s + rup q : ℚ) : ℝ) - S (i + 1)| ≤ ((i + 1 : ℕ) : ℝ) ^ 2 * e := by
        rw [hSs, hevenN.neg_one_pow, one_mul, Rat.cast_add, Nat.cast_succ]
        exact (tail_sum_step (Nat.cast_nonneg i) he hs hx).1
      refine ih (i + 1) _ _ lo _ (by omega) hc1' hc2' hs' hlo ?_
      linarith only [(abs_le.1 hs').1, henvE _ hevenN, hN]

end TailLoop
theorem sqrt2pi_sound : Mem (Real.sqrt (2 * Real.pi)) sqrt2pi := by
  have h := scale_sound 2 pi_sound
  rw [Rat.cast_ofNat] at h
  exact sqrt_sound' _ _ h

lemma sqrt2pi_lo_pos : 0 < sqrt2pi.lo := sqrtLo_pos scale2pi_lo_ge

lemma sqrt2piF_lo_pos : 0 < sqrt2piF.lo := by
  show 0 < (sqrt2pi.lo * (scaleN : ℚ)).floor
  exact Int.lt_of_lt_of_le one_pos
    (Rat.le_floor_iff.2 (by push_cast; exact one_le_sqrtLo_mul scale2pi_lo_ge))

theorem sqrt2piF_sound : Mem (Real.sqrt (2 * Real.pi)) sqrt2piF.toI :=
  mem_mk' sqrt2pi_sound.1 sqrt2pi_sound.2

lemma cast_neg_mul_self_div_two (z : ℚ) : ((-(z * z) / 2 : ℚ) : ℝ) = -(z : ℝ) ^ 2 / 2 := by
  push_cast; ring

/-- The fixed-point density enclosure is sound for every rational `z`. -/
theorem phiF_sound (z : ℚ) :
    Mem (Real.exp (-(z : ℝ) ^ 2 / 2) / Real.sqrt (2 * Real.pi)) (phiF z).toI := by
  unfold phiF
  have h1 := expF_sound (-(z * z) / 2)
  rw [cast_neg_mul_self_div_two] at h1
  exact FI.divPos_sound h1 sqrt2piF_sound (expF_lo_nonneg _) sqrt2piF_lo_pos

/-- The density enclosure is sound for all rational `z`: `exp(-z²/2)/√(2π) ∈ phi z`
(fixed-point quotient `phiF` for `|z| ≤ 1`, exact rational quotient of `expQ (-z²/2)` by the
endpoints of `sqrt2pi` otherwise). -/
theorem phi_sound (z : ℚ) :
    Mem (Real.exp (-(z : ℝ) ^ 2 / 2) / Real.sqrt (2 * Real.pi)) (phi z) := by
  unfold phi
  split_ifs with h
  · exact phiF_sound z
  · simp only
    have he := expQ_sound (-(z * z) / 2)
    rw [cast_neg_mul_self_div_two] at he
    generalize expQ (-(z * z) / 2) = e at he
    have hs := sqrt2pi_sound
    have hlo : (0 : ℝ) < (sqrt2pi.lo : ℝ) := by exact_mod_cast sqrt2pi_lo_pos
    have hsq : 0 < Real.sqrt (2 * Real.pi) := hlo.trans_le hs.1
    have hhi : (0 : ℝ) < (sqrt2pi.hi : ℝ) := hsq.trans_le hs.2
    obtain ⟨b1, b2⟩ := mul_bounds_of_nonneg (Real.exp_pos (-(z : ℝ) ^ 2 / 2)).le
      (inv_nonneg.2 hhi.le) he.1 he.2 (inv_anti₀ hsq hs.2) (inv_anti₀ hlo hs.1)
    exact mem_of_le_of_le (by rw [Rat.cast_div]; simpa only [div_eq_mul_inv] using b1)
      (by rw [Rat.cast_div]; simpa only [div_eq_mul_inv] using b2)

example : Mem (Real.exp (-((3 / 2 : ℚ) : ℝ) ^ 2 / 2) / Real.sqrt (2 * Real.pi)) (phi (3 / 2)) :=
  phi_sound _

example : Mem (Real.exp (-((2 ^ 40 : ℚ) : ℝ) ^ 2 / 2) / Real.sqrt (2 * Real.pi)) (phi (2 ^ 40)) :=
  phi_sound _

/-- the body of `PhiTail`, as a function of the pair returned by `phiTailLoop`; `2^-100` is the
model's allowance for the rounding of the at most 60 terms its fuel admits -/
def PhiTailOf (a : ℚ) (p : ℚ × ℚ) : I :=
  let d : Rat := 1 / ((2 ^ 100 : Nat) : Rat)
  let lo := ratMax (p.1 - d) 0
  let hi := p.2 + d
  let ph := phi a
  ⟨ph.lo / a * lo, ph.hi / a * hi⟩

lemma PhiTail_eq (a : ℚ) : PhiTail a = PhiTailOf a (phiTailLoop (a * a) 60 1 1 1 0 1) := by
  unfold PhiTail PhiTailOf
  dsimp only

/-- the enclosure of `(Φ|z| − 1/2)/φ(z)` that the series branch of `Phi` computes from the triple
returned by `phiLoop` (called with fuel 400 in `Phi_eq`); `2^24` is the model's slack factor -/
def PhiSeriesSum (z : ℚ) (p : ℕ × ℕ × ℕ) : I :=
  let s : Rat := (p.1 : Rat) / (scaleN : Rat)
  let term : Rat := (p.2.1 : Rat) / (scaleN : Rat)
  let rho := z * z / ((2 * p.2.2 + 3 : Nat) : Rat)
  let tail := term * rho / (1 - rho)
  let slack := (((p.2.2 + 2 : Nat) : Rat)) * (1 + s) * ((2 ^ 24 : Nat) : Rat) / (scaleN : Rat)
  ⟨ratMax (s - slack) 0, s + tail + slack⟩

/-- the series branch of `Phi`, as a function of the triple returned by `phiLoop` -/
def PhiSeries (z : ℚ) (p : ℕ × ℕ × ℕ) : I :=
  if z * z / ((2 * p.2.2 + 3 : Nat) : Rat) > 1 / 2 then
    (if z ≥ 0 then ⟨1 / 2, 1⟩ else ⟨0, 1 / 2⟩)
  else
    let half := mul (phi z) (PhiSeriesSum z p)
    if z ≥ 0 then add (ofRat (1 / 2)) half else sub (ofRat (1 / 2)) half

lemma Phi_eq (z : ℚ) : Phi z =
    if ratAbs z > 7 then (if z < 0 then PhiTail (ratAbs z) else sub (ofRat 1) (PhiTail (ratAbs z)))
    else PhiSeries z (phiLoop (z * z).num.toNat (z * z).den 400 0
      (ratAbs z * (scaleN : Rat)).ceil.toNat (ratAbs z * (scaleN : Rat)).ceil.toNat) := by
  unfold Phi PhiSeries PhiSeriesSum
  dsimp only

/-- `phi_sound` with the density written as `phiR` -/
lemma phi_soundR (z : ℚ) : Mem (phiR (z : ℝ)) (phi z) := phi_sound z

/-- **Soundness of the far-tail enclosure.** For every rational `a > 0`, the upper-tail mass
`1 − Φ(a) = Φ(−a)` lies in `PhiTail a`: the partial sums of the asymptotic series
`φ(a)/a·(1 − 1/a² + 3/a⁴ − …)` envelope the value (`tail_envelope`), and the `rup` rounding of at
most 60 terms, at most `60²·2^-128` by `phiTailLoop_inv`, is absorbed by the `2^-100` allowance. -/
theorem PhiTail_sound (a : ℚ) (ha : 0 < a) : Mem (Φ (-(a : ℝ))) (PhiTail a) := by
  have haR : (0 : ℝ) < (a : ℝ) := by exact_mod_cast ha
  have hq : 0 < phiR (a : ℝ) / (a : ℝ) := div_pos (phiR_pos _) haR
  obtain ⟨R, hRval⟩ : ∃ R, phiR (a : ℝ) / (a : ℝ) * R = Φ (-(a : ℝ)) :=
    ⟨_, mul_div_cancel₀ _ hq.ne'⟩
  have hR0 : 0 ≤ R := le_of_mul_le_mul_left (by rw [mul_zero, hRval]; exact Phi_nonneg _) hq
  have henvE : ∀ n : ℕ, Even n → R ≤ tailS (a : ℝ) n := fun n hn =>
    le_of_mul_le_mul_left (hRval ▸ tail_envelope_even haR hn) hq
  have henvO : ∀ n : ℕ, Odd n → tailS (a : ℝ) n ≤ R := fun n hn =>
    le_of_mul_le_mul_left (hRval ▸ tail_envelope_odd haR hn) hq
  have hvs : ∀ j : ℕ, tailV (a : ℝ) (j + 1) =
      tailV (a : ℝ) j * (2 * (j : ℝ) + 1) / ((a * a : ℚ) : ℝ) := by
    intro j
    rw [tailV_succ haR.ne', Rat.cast_mul, pow_two]
  have he : (0 : ℝ) ≤ 1 / FI.SR := one_div_nonneg.2 FI.SR_pos.le
  have h0 := henvE 0 (by decide)
  rw [tailS_zero] at h0
  obtain ⟨h1, h2⟩ := phiTailLoop_inv (a * a) (mul_pos ha ha) (tailV (a : ℝ)) (tailS (a : ℝ)) R
    (tailV_zero _) hvs (tailS_succ _) henvE henvO _ he rup_leR 60 60 0 1 1 0 1 le_rfl
    (by rw [tailV_zero, Rat.cast_one]) (by rw [tailV_zero]; norm_num)
    (by rw [tailS_zero]; norm_num) (by push_cast; linarith [mul_nonneg (sq_nonneg (60 : ℝ)) he])
    (by push_cast; linarith [mul_nonneg (sq_nonneg (60 : ℝ)) he])
  rw [PhiTail_eq]
  generalize phiTailLoop (a * a) 60 (0 + 1) 1 1 0 1 = p at h1 h2
  have hd : ((60 : ℕ) : ℝ) ^ 2 * (1 / FI.SR) ≤ (((1 / ((2 ^ 100 : ℕ) : ℚ) : ℚ)) : ℝ) := by
    rw [SR_eq_pow]; push_cast; norm_num
  obtain ⟨hp1, hp2⟩ := phi_soundR a
  rw [← hRval]
  obtain ⟨b1, b2⟩ := mul_bounds_of_nonneg hq.le
    (le_max_right ((p.1 : ℝ) - (((1 / ((2 ^ 100 : ℕ) : ℚ) : ℚ)) : ℝ)) 0)
    (div_le_div_of_nonneg_right hp1 haR.le) (div_le_div_of_nonneg_right hp2 haR.le)
    (max_le (by linarith only [h1, hd]) hR0) (by linarith only [h2, hd] :
      R ≤ (p.2 : ℝ) + (((1 / ((2 ^ 100 : ℕ) : ℚ) : ℚ)) : ℝ))
  refine mem_of_le_of_le ?_ ?_
  · rw [ratMax_eq, Rat.cast_mul, Rat.cast_div, Rat.cast_max, Rat.cast_sub, Rat.cast_zero]
    exact b1
  · rw [Rat.cast_mul, Rat.cast_div, Rat.cast_add]
    exact b2

example : Mem (Φ (-((8 : ℚ) : ℝ))) (PhiTail 8) := PhiTail_sound 8 (by decide)

lemma Phi_ge_half {y : ℝ} (hy : 0 ≤ y) : 1 / 2 ≤ Φ y := by
  have h := Phi_series_lower hy 0
  have h1 : 0 ≤ phG 0 y := Finset.sum_nonneg fun k _ => phT_nonneg hy k
  have h2 := phiR_nonneg y
  linarith only [h, mul_nonneg h2 h1]

lemma Phi_le_one (x : ℝ) : Φ x ≤ 1 := by
  have := Phi_add_neg x
  have := Phi_nonneg (-x)
  linarith

lemma Phi_le_half {y : ℝ} (hy : y ≤ 0) : Φ y ≤ 1 / 2 := by
  have := Phi_add_neg y
  have := Phi_ge_half (y := -y) (by linarith)
  linarith

lemma sq_num_div_den_cast (z : ℚ) :
    (((z * z).num.toNat : ℕ) : ℝ) / (((z * z).den : ℕ) : ℝ) = (z : ℝ) ^ 2 := by
  have hnum : 0 ≤ (z * z).num := Rat.num_nonneg.mpr (mul_self_nonneg z)
  have h1 : (((z * z).num.toNat : ℕ) : ℤ) = (z * z).num := Int.toNat_of_nonneg hnum
  have h2 : (((z * z).num.toNat : ℕ) : ℝ) = (((z * z).num : ℤ) : ℝ) := by
    rw [← Int.cast_natCast, h1]
  rw [h2, ← Rat.cast_def (z * z)]
  push_cast; ring

lemma ceil_abs_mul_scaleN_bounds (z : ℚ) :
    |(z : ℝ)| * FI.SR ≤ (((ratAbs z * (scaleN : ℚ)).ceil.toNat : ℕ) : ℝ) ∧
      (((ratAbs z * (scaleN : ℚ)).ceil.toNat : ℕ) : ℝ) ≤ |(z : ℝ)| * FI.SR + 1 := by
  rw [ratAbs_eq]
  set x : ℚ := |z| * (scaleN : ℚ) with hx
  have hx0 : 0 ≤ x := mul_nonneg (abs_nonneg _) scaleN_pos.le
  have h1 : x ≤ (x.ceil : ℚ) := Rat.le_ceil
  have h2 : (x.ceil : ℚ) < x + 1 := Rat.ceil_lt
  have hc0 : 0 ≤ x.ceil := by
    have : (0 : ℚ) ≤ (x.ceil : ℚ) := hx0.trans h1
    exact_mod_cast this
  have e1 : ((x.ceil.toNat : ℕ) : ℤ) = x.ceil := Int.toNat_of_nonneg hc0
  have e2 : ((x.ceil.toNat : ℕ) : ℝ) = ((x.ceil : ℤ) : ℝ) := by
    rw [← Int.cast_natCast, e1]
  have exR : (x : ℝ) = |(z : ℝ)| * FI.SR := by
    rw [hx]; unfold FI.SR; push_cast; rfl
  rw [e2, ← exR]
  constructor
  · exact_mod_cast h1
  · have : ((x.ceil : ℤ) : ℝ) < (x : ℝ) + 1 := by exact_mod_cast h2
    exact this.le

/-- The accumulated rounding (`sum_computed_sub_sum_term_le`) of the at most 401 terms that the
fuel 400 of `phiLoop` allows fits into the `slack` of `Phi`: what is needed is
`K + 1 + G ≤ c·(1 + s)`, here with the model's constant `c = 2^24`. -/
lemma slack_bound {K s G e : ℝ} (hK0 : 0 ≤ K) (hK : K ≤ 400) (hG0 : 0 ≤ G) (hG : G ≤ s)
    (he : 0 ≤ e) (hs : s - G ≤ (K + 1) * e * ((K + 1) + G)) :
    s - G ≤ (K + 2) * (1 + s) * 2 ^ 24 * e := by
  refine hs.trans ?_
  rw [mul_right_comm]
  refine mul_le_mul_of_nonneg_right ?_ he
  calc (K + 1) * ((K + 1) + G) ≤ (K + 2) * (2 ^ 24 * (1 + s)) :=
        mul_le_mul (by linarith) (by linarith) (by linarith) (by linarith)
    _ = (K + 2) * (1 + s) * 2 ^ 24 := by ring

lemma PhiSeriesSum_sound (z : ℚ) (sN tN K : ℕ) (hK : K ≤ 400)
    (hG : phG K |(z : ℝ)| ≤ (sN : ℝ) / FI.SR)
    (hs : (sN : ℝ) / FI.SR - phG K |(z : ℝ)| ≤
      ((K : ℝ) + 1) * (1 / FI.SR) * (((K : ℝ) + 1) + phG K |(z : ℝ)|))
    (hT : phT K |(z : ℝ)| ≤ (tN : ℝ) / FI.SR) (hrho : z * z / ((2 * K + 3 : ℕ) : ℚ) ≤ 1 / 2) :
    Mem ((Φ |(z : ℝ)| - 1 / 2) / phiR |(z : ℝ)|) (PhiSeriesSum z (sN, tN, K)) := by
  have hy0 : 0 ≤ |(z : ℝ)| := abs_nonneg _
  have hφ := phiR_pos |(z : ℝ)|
  have hG0 : 0 ≤ phG K |(z : ℝ)| := Finset.sum_nonneg fun k _ => phT_nonneg hy0 k
  have hρq : ((z * z / ((2 * K + 3 : ℕ) : ℚ) : ℚ) : ℝ) = |(z : ℝ)| ^ 2 / (2 * (K : ℝ) + 3) := by
    rw [sq_abs]; push_cast; ring
  have hρhalf : |(z : ℝ)| ^ 2 / (2 * (K : ℝ) + 3) ≤ 1 / 2 := by
    have h := (Rat.cast_le (K := ℝ)).2 hrho
    rwa [hρq, Rat.cast_div, Rat.cast_one, Rat.cast_ofNat] at h
  have hρ0 : 0 ≤ |(z : ℝ)| ^ 2 / (2 * (K : ℝ) + 3) := by positivity
  have hlow := Phi_series_lower hy0 K
  have hupp := Phi_series_upper hy0 K
    ((div_lt_one (by positivity)).1 (hρhalf.trans_lt (by norm_num : (1 / 2 : ℝ) < 1)))
  have hslack := slack_bound (Nat.cast_nonneg K) (by exact_mod_cast hK) hG0 hG
    (one_div_nonneg.2 FI.SR_pos.le) hs
  rw [mul_one_div] at hslack
  have hfrac := div_le_div_of_nonneg_right (mul_le_mul_of_nonneg_right hT hρ0)
    (sub_nonneg.2 (hρhalf.trans (by norm_num : (1 / 2 : ℝ) ≤ 1)))
  rw [mul_comm (phiR _), ← le_div_iff₀ hφ] at hlow
  rw [mul_comm (phiR _), ← div_le_iff₀ hφ] at hupp
  constructor
  · show ((ratMax _ 0 : ℚ) : ℝ) ≤ _
    rw [ratMax_eq, Rat.cast_max, Rat.cast_zero]
    refine max_le ?_ (hG0.trans hlow)
    push_cast
    rw [FI.SR_nat]
    linarith only [hslack, hlow]
  · show _ ≤ ((_ + _ + _ : ℚ) : ℝ)
    rw [Rat.cast_add, Rat.cast_add, Rat.cast_div _ (1 - _), Rat.cast_mul, Rat.cast_sub, hρq]
    push_cast
    rw [FI.SR_nat]
    linarith

/-- series branch, given the facts about the triple `(sN, tN, K)` returned by `phiLoop` -/
lemma PhiSeries_sound (z : ℚ) (sN tN K : ℕ) (hK : K ≤ 400)
    (hG : phG K |(z : ℝ)| ≤ (sN : ℝ) / FI.SR)
    (hs : (sN : ℝ) / FI.SR - phG K |(z : ℝ)| ≤
      ((K : ℝ) + 1) * (1 / FI.SR) * (((K : ℝ) + 1) + phG K |(z : ℝ)|))
    (hT : phT K |(z : ℝ)| ≤ (tN : ℝ) / FI.SR) :
    Mem (Φ (z : ℝ)) (PhiSeries z (sN, tN, K)) := by
  unfold PhiSeries
  simp only
  split_ifs with hrho hz1 hz2
  · have hzr : (0 : ℝ) ≤ z := by exact_mod_cast hz1
    constructor
    · show (((1 / 2 : ℚ)) : ℝ) ≤ _
      push_cast; exact Phi_ge_half hzr
    · show _ ≤ ((1 : ℚ) : ℝ)
      push_cast; exact Phi_le_one _
  · have hzr : (z : ℝ) ≤ 0 := by exact_mod_cast (not_le.mp hz1).le
    constructor
    · show ((0 : ℚ) : ℝ) ≤ _
      push_cast; exact Phi_nonneg _
    · show _ ≤ (((1 / 2 : ℚ)) : ℝ)
      push_cast; exact Phi_le_half hzr
  · have hmul := mul_sound (phi_soundR z) (PhiSeriesSum_sound z sN tN K hK hG hs hT (not_lt.1 hrho))
    have hzr : (0 : ℝ) ≤ z := by exact_mod_cast hz2
    rw [abs_of_nonneg hzr, mul_div_cancel₀ _ (phiR_pos _).ne'] at hmul
    have h1 := add_sound (ofRat_sound (1 / 2)) hmul
    rwa [show (((1 / 2 : ℚ)) : ℝ) + (Φ (z : ℝ) - 1 / 2) = Φ (z : ℝ) by push_cast; ring] at h1
  · have hmul := mul_sound (phi_soundR z) (PhiSeriesSum_sound z sN tN K hK hG hs hT (not_lt.1 hrho))
    have hzr : (z : ℝ) < 0 := by exact_mod_cast not_le.mp hz2
    rw [abs_of_neg hzr, phiR_neg, mul_div_cancel₀ _ (phiR_pos _).ne'] at hmul
    have h1 := sub_sound (ofRat_sound (1 / 2)) hmul
    rwa [show (((1 / 2 : ℚ)) : ℝ) - (Φ (-(z : ℝ)) - 1 / 2) = Φ (z : ℝ) by
      push_cast; linarith [Phi_add_neg (z : ℝ)]] at h1

/-- the loop result satisfies the hypotheses of `PhiSeries_sound` -/
lemma phiLoop_facts (z : ℚ) :
    ∃ sN tN K : ℕ, phiLoop (z * z).num.toNat (z * z).den 400 0
        (ratAbs z * (scaleN : Rat)).ceil.toNat (ratAbs z * (scaleN : Rat)).ceil.toNat = (sN, tN, K) ∧
      K ≤ 400 ∧ phG K |(z : ℝ)| ≤ (sN : ℝ) / FI.SR ∧
      (sN : ℝ) / FI.SR - phG K |(z : ℝ)| ≤
        ((K : ℝ) + 1) * (1 / FI.SR) * (((K : ℝ) + 1) + phG K |(z : ℝ)|) ∧
      phT K |(z : ℝ)| ≤ (tN : ℝ) / FI.SR := by
  set zn := (z * z).num.toNat with hzn
  set zd := (z * z).den with hzd
  set t0 := (ratAbs z * (scaleN : Rat)).ceil.toNat with ht0def
  have hzdpos : 0 < zd := (z * z).den_pos
  have hS := FI.SR_pos
  obtain ⟨K, -, hK, hloop⟩ := phiLoop_spec zn zd t0 400 0
  have h00 : sn zn zd t0 0 = t0 := by simp [sn, tn]
  have h01 : tn zn zd t0 0 = t0 := rfl
  rw [h00, h01] at hloop
  refine ⟨sn zn zd t0 K, tn zn zd t0 K, K, hloop, by omega, ?_⟩
  set y : ℝ := |(z : ℝ)| with hy
  have hT0 : phT 0 y = |(z : ℝ)| := rfl
  have hTs : ∀ k : ℕ, phT (k + 1) y = phT k y * (z : ℝ) ^ 2 / (2 * (k : ℝ) + 3) := by
    intro k
    show phT k y * y ^ 2 / (2 * (k : ℝ) + 3) = _
    rw [hy, sq_abs]
  have hratio : ∀ k : ℕ, (zn : ℝ) / ((zd : ℝ) * (2 * (k : ℝ) + 3)) = (z : ℝ) ^ 2 / (2 * (k : ℝ) + 3) := by
    intro k
    rw [← sq_num_div_den_cast z, div_div]
  have ht0 : phT 0 y ≤ (tn zn zd t0 0 : ℝ) / FI.SR ∧
      (tn zn zd t0 0 : ℝ) / FI.SR ≤ phT 0 y + 1 / FI.SR := by
    obtain ⟨b1, b2⟩ := ceil_abs_mul_scaleN_bounds z
    rw [h01, hT0]
    constructor
    · rw [le_div_iff₀ hS]; exact b1
    · rw [div_le_iff₀ hS, add_mul, div_mul_cancel₀ _ hS.ne']; exact b2
  have hts : ∀ k : ℕ, (tn zn zd t0 k : ℝ) / FI.SR * ((z : ℝ) ^ 2 / (2 * (k : ℝ) + 3)) ≤
        (tn zn zd t0 (k + 1) : ℝ) / FI.SR ∧
      (tn zn zd t0 (k + 1) : ℝ) / FI.SR ≤
        (tn zn zd t0 k : ℝ) / FI.SR * ((z : ℝ) ^ 2 / (2 * (k : ℝ) + 3)) + 1 / FI.SR := by
    intro k
    obtain ⟨b1, b2⟩ := tn_succ_bounds zn zd t0 hzdpos k
    rw [hratio] at b1 b2
    constructor
    · rw [div_mul_eq_mul_div, div_le_div_iff_of_pos_right hS]; exact b1
    · rw [div_mul_eq_mul_div, ← add_div, div_le_div_iff_of_pos_right hS]; exact b2
  have hsum : ((sn zn zd t0 K : ℕ) : ℝ) / FI.SR =
      ∑ k ∈ Finset.range (K + 1), (tn zn zd t0 k : ℝ) / FI.SR := by
    unfold sn; push_cast; rw [Finset.sum_div]
  refine ⟨?_, ?_, ?_⟩
  · rw [hsum]
    exact sum_term_le_sum_computed z (fun k => phT k y) hTs _ (fun k => (tn zn zd t0 k : ℝ) / FI.SR) ht0 hts _
  · rw [hsum]
    exact sum_computed_sub_sum_term_le z (fun k => phT k y) hT0 hTs _ (one_div_nonneg.2 hS.le)
      (fun k => (tn zn zd t0 k : ℝ) / FI.SR) ht0 hts K
  · exact term_le_computed z (fun k => phT k y) hTs _ (fun k => (tn zn zd t0 k : ℝ) / FI.SR) ht0 hts K

/-- **Soundness of the normal CDF enclosure.** For all rational `z`, the value
`Φ(z) = ∫_{-∞}^{z} exp(-t²/2)/√(2π) dt` lies in the computed interval `Phi z`
(series branch `1/2 ± φ(z)·Σ_{k≤K} |z|^(2k+1)/(2k+1)!!` with geometric tail and rounding slack,
where `K` is the early-exit index of `phiLoop`, or the trivial fallback `[1/2,1]` / `[0,1/2]`, for
`|z| ≤ 7`; enveloping asymptotic series `PhiTail |z|` (see `PhiTail_sound`) for `|z| > 7`). -/
theorem Phi_sound (z : ℚ) : Mem (Φ (z : ℝ)) (Phi z) := by
  rw [Phi_eq, ratAbs_eq]
  split_ifs with h7 hneg
  · -- |z| > 7, z < 0
    have hzr : (z : ℝ) < 0 := by exact_mod_cast hneg
    have h := PhiTail_sound |z| (abs_pos.mpr (ne_of_lt hneg))
    rwa [Rat.cast_abs, abs_of_neg hzr, neg_neg] at h
  · -- |z| > 7, z ≥ 0
    have hz0 : z ≠ 0 := by
      rintro rfl; simp at h7; linarith
    have hzr : (0 : ℝ) ≤ z := by exact_mod_cast not_lt.mp hneg
    have h := PhiTail_sound |z| (abs_pos.mpr hz0)
    rw [Rat.cast_abs, abs_of_nonneg hzr] at h
    have h1 := sub_sound (ofRat_sound 1) h
    have : ((1 : ℚ) : ℝ) - Φ (-(z : ℝ)) = Φ (z : ℝ) := by
      have := Phi_add_neg (z : ℝ); push_cast; linarith
    rwa [this] at h1
  · -- series branch
    obtain ⟨sN, tN, K, hloop, hK, hG, hs, hT⟩ := phiLoop_facts z
    rw [ratAbs_eq] at hloop
    rw [hloop]
    exact PhiSeries_sound z sN tN K hK hG hs hT

example : Mem (Φ ((-5 / 4 : ℚ) : ℝ)) (Phi (-5 / 4)) := Phi_sound _
example : Mem (Φ ((9 : ℚ) : ℝ)) (Phi 9) := Phi_sound _

end MV.I
